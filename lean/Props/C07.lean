import Proofs.MsgCtor
import Proofs.MsgTotal
import MidiModel.Generated.Facts
/-!
# C07 — constructors emit the MIDI 1.0 wire encoding and accessors invert them

Model: `MidiModel/Msg.lean` (constructors of `v2/channel.go`, `v2/syscommon.go`, `v2/realtime.go` through
the models of `getCompleteStatus`, `MsbLsbSigned`/`MsbLsbUnsigned`, `binary.BigEndian.PutUint16`; accessors of
`v2/message.go`). Arguments are arbitrary naturals / integers: every `uint8`, `int16`, `uint16` value is
covered (`Call.Valid` describes exactly those), the statements hold even beyond. `min x 127` / `min ch 15`
is the clamping "to the nearest legal value"; `clampPitch v = max (-8192) (min v 8191)`.
The loopback clause of the property is checked differentially (harness/c07.go sends every generated
message through `drivers/testdrv` + `midi.ListenTo`); the live decoder is modelled under C04.
-/
namespace Midi.C07
open Midi Midi.Msg

/-! ## the model's tables are the tables of the compiled library -/

/-- numeric values of the exported `Type` constants as the compiled library has them -/
theorem type_constants_eq_facts : Msg.typeConstants = Facts.typeConstants := by decide

/-- the type of `midi.Message{b}` for every status byte, as dumped from the compiled library -/
theorem status_table_eq_facts : (List.range 256).map typeOfStatus = Facts.midiType := by decide +kernel

/-! ## byte layout: status nibble | clamped channel, clamped 7-bit data -/

theorem noteOn_bytes (ch k v : Nat) : noteOn ch k v = [0x90 + min ch 15, min k 127, min v 127] := noteOn_eq ch k v
theorem noteOffVelocity_bytes (ch k v : Nat) : noteOffVelocity ch k v = [0x80 + min ch 15, min k 127, min v 127] :=
  noteOffVelocity_eq ch k v
theorem noteOff_bytes (ch k : Nat) : noteOff ch k = [0x80 + min ch 15, min k 127, 0] := noteOff_eq ch k
theorem polyAfterTouch_bytes (ch k p : Nat) : polyAfterTouch ch k p = [0xA0 + min ch 15, min k 127, min p 127] :=
  polyAfterTouch_eq ch k p
theorem controlChange_bytes (ch c v : Nat) : controlChange ch c v = [0xB0 + min ch 15, min c 127, min v 127] :=
  controlChange_eq ch c v
theorem programChange_bytes (ch p : Nat) : programChange ch p = [0xC0 + min ch 15, min p 127] := programChange_eq ch p
theorem afterTouch_bytes (ch p : Nat) : afterTouch ch p = [0xD0 + min ch 15, min p 127] := afterTouch_eq ch p

/-- pitch bend: 14-bit value `u = clamp v + 8192`, least significant 7 bits first; never panics -/
theorem pitchbend_bytes (ch : Nat) (v : Int) :
    pitchbend ch v = some [0xE0 + min ch 15, (max (-8192) (min v 8191) + 8192).toNat % 128,
                           (max (-8192) (min v 8191) + 8192).toNat / 128] := by
  rw [← clampPitch_eq]; exact pitchbend_eq ch v

/-- song position: least significant 7 bits first (bits 14 and 15 of an out-of-range argument are dropped) -/
theorem spp_bytes (p : Nat) : spp p = [0xF2, p % 128, p / 128 % 128] := spp_eq p
theorem songSelect_bytes (s : Nat) : songSelect s = [0xF3, s % 128] := songSelect_eq s
theorem mtc_bytes (m : Nat) : mtc m = [0xF1, m % 128] := mtc_eq m

theorem ctor_bytes (c : Call) :
    ∃ s ds, c.bytes = some (s :: ds) ∧ typeOfStatus s = c.type ∧ 0x80 ≤ s ∧ s < 256 ∧ ∀ d ∈ ds, d ≤ 127 := by
  cases c with
  | noteOn ch k v =>
    exact ⟨_, _, congrArg some (noteOn_eq ch k v), type_9x _ (by omega), by omega, by omega, by simp; omega⟩
  | noteOffVelocity ch k v =>
    exact ⟨_, _, congrArg some (noteOffVelocity_eq ch k v), type_8x _ (by omega), by omega, by omega, by simp; omega⟩
  | noteOff ch k =>
    exact ⟨_, _, congrArg some (noteOff_eq ch k), type_8x _ (by omega), by omega, by omega, by simp; omega⟩
  | polyAfterTouch ch k p =>
    exact ⟨_, _, congrArg some (polyAfterTouch_eq ch k p), type_Ax _ (by omega), by omega, by omega, by simp; omega⟩
  | controlChange ch k v =>
    exact ⟨_, _, congrArg some (controlChange_eq ch k v), type_Bx _ (by omega), by omega, by omega, by simp; omega⟩
  | programChange ch p =>
    exact ⟨_, _, congrArg some (programChange_eq ch p), type_Cx _ (by omega), by omega, by omega, by simp; omega⟩
  | afterTouch ch p =>
    exact ⟨_, _, congrArg some (afterTouch_eq ch p), type_Dx _ (by omega), by omega, by omega, by simp; omega⟩
  | pitchbend ch v =>
    have := clampPitch_eq v
    exact ⟨_, _, pitchbend_eq ch v, type_Ex _ (by omega), by omega, by omega, by simp; omega⟩
  | spp p => exact ⟨_, _, congrArg some (spp_eq p), rfl, by omega, by omega, by simp; omega⟩
  | songSelect s => exact ⟨_, _, congrArg some (songSelect_eq s), rfl, by omega, by omega, by simp; omega⟩
  | mtc m => exact ⟨_, _, congrArg some (mtc_eq m), rfl, by omega, by omega, by simp; omega⟩
  | tune => exact ⟨_, _, rfl, rfl, by decide, by decide, nofun⟩
  | timingClock => exact ⟨_, _, rfl, rfl, by decide, by decide, nofun⟩
  | tick => exact ⟨_, _, rfl, rfl, by decide, by decide, nofun⟩
  | start => exact ⟨_, _, rfl, rfl, by decide, by decide, nofun⟩
  | continue_ => exact ⟨_, _, rfl, rfl, by decide, by decide, nofun⟩
  | stop => exact ⟨_, _, rfl, rfl, by decide, by decide, nofun⟩
  | activesense => exact ⟨_, _, rfl, rfl, by decide, by decide, nofun⟩
  | reset => exact ⟨_, _, rfl, rfl, by decide, by decide, nofun⟩

/-- whatever the arguments: no constructor panics, the first byte is a status byte and every further
    byte is a data byte (`≤ 127`) -/
theorem data_le_127 (c : Call) :
    ∃ s ds, c.bytes = some (s :: ds) ∧ 0x80 ≤ s ∧ s < 256 ∧ ∀ d ∈ ds, d ≤ 127 :=
  let ⟨s, ds, h, _, hs⟩ := ctor_bytes c
  ⟨s, ds, h, hs⟩

/-! ## the matching accessor returns exactly the (clamped) arguments -/

theorem getNoteOn_noteOn (ch k v : Nat) : getNoteOn (noteOn ch k v) = .yes (min ch 15, min k 127, min v 127) := by
  rw [noteOn_eq]
  exact get3_chan NoteOnMsg (by decide) 9 ch k v (by omega) type_9x
theorem getNoteOff_noteOffVelocity (ch k v : Nat) :
    getNoteOff (noteOffVelocity ch k v) = .yes (min ch 15, min k 127, min v 127) := by
  rw [noteOffVelocity_eq]
  exact get3_chan NoteOffMsg (by decide) 8 ch k v (by omega) type_8x
theorem getNoteOff_noteOff (ch k : Nat) : getNoteOff (noteOff ch k) = .yes (min ch 15, min k 127, 0) := by
  rw [noteOff_eq]
  exact get3_chan NoteOffMsg (by decide) 8 ch k 0 (by omega) type_8x
theorem getPolyAfterTouch_polyAfterTouch (ch k p : Nat) :
    getPolyAfterTouch (polyAfterTouch ch k p) = .yes (min ch 15, min k 127, min p 127) := by
  rw [polyAfterTouch_eq]
  exact get3_chan PolyAfterTouchMsg (by decide) 10 ch k p (by omega) type_Ax
theorem getControlChange_controlChange (ch c v : Nat) :
    getControlChange (controlChange ch c v) = .yes (min ch 15, min c 127, min v 127) := by
  rw [controlChange_eq]
  exact get3_chan ControlChangeMsg (by decide) 11 ch c v (by omega) type_Bx
theorem getProgramChange_programChange (ch p : Nat) :
    getProgramChange (programChange ch p) = .yes (min ch 15, min p 127) := by
  rw [programChange_eq]
  exact get2_chan ProgramChangeMsg (by decide) 12 ch p (by omega) type_Cx
theorem getAfterTouch_afterTouch (ch p : Nat) : getAfterTouch (afterTouch ch p) = .yes (min ch 15, min p 127) := by
  rw [afterTouch_eq]
  exact get2_chan AfterTouchMsg (by decide) 13 ch p (by omega) type_Dx

/-- `GetPitchBend` returns the clamped channel, the clamped relative value and `relative + 8192` -/
theorem getPitchBend_pitchbend (ch : Nat) (v : Int) :
    ∃ bs, pitchbend ch v = some bs ∧
      getPitchBend bs = .yes (min ch 15, max (-8192) (min v 8191), (max (-8192) (min v 8191) + 8192).toNat) := by
  rw [← clampPitch_eq]
  refine ⟨_, pitchbend_eq ch v, ?_⟩
  have hc := clampPitch_eq v
  rw [getPitchBend_own _ _ _ (type_Ex _ (by omega)), chan_of_status 14 (min ch 15) (by omega) (by omega)]
  -- the 14-bit value `u`, cut into two 7-bit digits by the constructor and put together again
  have hu : (clampPitch v + 8192).toNat < 16384 := by omega
  have hv : clampPitch v = ((clampPitch v + 8192).toNat : Int) - 8192 := by omega
  generalize (clampPitch v + 8192).toNat = u at hu hv ⊢
  have e : u / 128 % 128 * 128 + u % 128 % 128 = u := by omega
  rw [e, hv]

/-- `GetSPP` returns the argument (its 14 low bits: every `p < 16384` exactly) -/
theorem getSPP_spp (p : Nat) : getSPP (spp p) = .yes (p % 16384) := by
  rw [spp_eq, getSPP_own]
  congr 1
  omega
theorem getSPP_spp_in_range (p : Nat) (h : p < 16384) : getSPP (spp p) = .yes p := by
  rw [getSPP_spp, Nat.mod_eq_of_lt h]
theorem getMTC_mtc (m : Nat) : getMTC (mtc m) = .yes (m % 128) := by
  rw [mtc_eq, getMTC, get1_own _ (by decide) _ _ (by decide)]
  congr 1
  omega
theorem getSongSelect_songSelect (s : Nat) : getSongSelect (songSelect s) = .yes (s % 128) := by
  rw [songSelect_eq, getSongSelect, get1_own _ (by decide) _ _ (by decide)]
  congr 1
  omega

/-! ## every other type-specific accessor rejects -/

theorem ctor_type (c : Call) : ∃ bs, c.bytes = some bs ∧ getType bs = some c.type :=
  let ⟨s, ds, h, ht, _⟩ := ctor_bytes c
  ⟨_, h, (getType_cons s ds).trans (congrArg some ht)⟩

/-- of the type-specific accessors (`GetNoteOn`, `GetNoteOff`, `GetPolyAfterTouch`, `GetAfterTouch`,
    `GetControlChange`, `GetProgramChange`, `GetPitchBend`, `GetMTC`, `GetSPP`, `GetSongSelect`, `GetSysEx`)
    only the one documented for the constructor's type can accept a constructed message -/
theorem other_accessors_reject (c : Call) :
    ∃ bs, c.bytes = some bs ∧ ∀ p ∈ specificAccepts bs, p.1 ≠ c.type → p.2 = false := by
  obtain ⟨bs, hb, ht⟩ := ctor_type c
  refine ⟨bs, hb, fun p hp hne => ?_⟩
  cases h : p.2 with
  | false => rfl
  | true =>
    have := specific_accept_type bs p hp h
    rw [ht] at this
    exact absurd (Option.some.inj this).symm hne

/-! Non-vacuity / sanity: out-of-range arguments, both pitch bend extremes, a 14-bit song position. -/
example : noteOn 200 60 255 = [0x9F, 60, 127] := by decide
example : pitchbend 3 (-32768) = some [0xE3, 0, 0] ∧ pitchbend 3 32767 = some [0xE3, 127, 127] ∧
    pitchbend 3 0 = some [0xE3, 0, 64] := by decide
example : spp 300 = [0xF2, 44, 2] ∧ getSPP (spp 300) = .yes 300 := by decide
example : (Call.pitchbend 16 8192).Valid ∧ (Call.mtc 200).Valid := by simp [Call.Valid]
example : (specificAccepts (noteOn 1 2 3)).map (·.2) =
    [true, false, false, false, false, false, false, false, false, false, false] := by decide

end Midi.C07
