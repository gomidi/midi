import Proofs.Gram
/-!
# C02 — SMF decoding conforms to the Standard MIDI File 1.0 format

`Gram` (MidiModel/SmfGrammar.lean) is the independent specification: a syntax tree of a valid SMF 1.0
file with every encoding choice the format leaves open, its bytes (`serialize`) and the events a
decoder has to report (`meaning`). The theorem says that the reader model returns exactly `meaning g`
for every valid tree `g` — including files the library's writer never produces.
-/
namespace Midi.C02
open Midi Midi.Smf Midi.Gram

/-- For every valid SMF 1.0 syntax tree (formats 0/1/2, metric or SMPTE division, any alien chunks
    before, between and after the tracks, running status wherever legal, non-minimal variable-length
    quantities, unknown meta types, `F0`/`F7` packets of any content, payloads of any length) reading
    its bytes yields exactly the specified events. -/
theorem reader_conforms (g : GFile) (h : g.Valid) : readFrom (serialize g) = .ok (meaning g) :=
  readFrom_serialize g h

/-- the `GVlq` component of the executable validity test used to label generated trees is sound (for the other
    components, `GEv.validB` … `GFile.validB`, no such theorem is stated) -/
theorem validB_sound_vlq (v : GVlq) (h : v.validB = true) : v.Valid := by
  simp only [GVlq.validB, Bool.and_eq_true, decide_eq_true_eq] at h
  exact h

/-- one event, from any reader state that makes its running-status elision legal -/
theorem event_conforms (rr : Nat) (e : GEvent) (rest : Bytes) (hd : e.delta.Valid) (hv : e.ev.Valid)
    (hel : match e.ev with | .chan s _ _ true => rr = s | _ => True) :
    readEvent rr (e.bytes ++ rest) = .ok ⟨e.delta.value, e.ev.msg, e.ev.statusAfter, rest⟩ :=
  readEvent_g rr e rest hd hv hel

/-- alien chunks of any type and size in front of a track chunk are skipped -/
theorem aliens_skipped (as : List Alien) (hv : ∀ a ∈ as, a.Valid) (k L : Nat) (rest : Bytes) (fuel : Nat)
    (hf : as.length < fuel) :
    chunkLoop fuel k ((as.map Alien.bytes).flatten ++ (MTrk ++ be32 L ++ rest)) = .ok (k + 1, rest) :=
  chunkLoop_aliens as hv k L rest fuel hf

/-! Non-vacuity: a tree with an alien chunk before the track, a padded delta, running status on a
    one-data-byte message, an unknown meta type, an `F7` escape and a trailing alien chunk is valid,
    and the executable reader decodes it to its meaning. -/
def sample : GFile :=
  { format := 0, tf := .smpte 25 40,
    groups := [([⟨[0x58, 0x46, 0x49, 0x48], [1, 2, 3]⟩],
      { events := [⟨⟨0, 2⟩, .chan 0xC3 5 none false⟩, ⟨⟨128, 1⟩, .chan 0xC3 7 none true⟩,
                   ⟨⟨0, 0⟩, .metaEv 0x60 ⟨2, 1⟩ [9, 9]⟩, ⟨⟨5, 0⟩, .sysex 0xF7 ⟨1, 0⟩ [0xFA]⟩,
                   ⟨⟨0, 0⟩, .chan 0x93 60 (some 64) false⟩],
        eotDelta := ⟨0, 3⟩, eotLenPad := 2 })],
    trailer := [⟨[0x41, 0x42, 0x43, 0x44], []⟩] }

example : sample.validB = true := by decide +kernel
example : (readFrom (serialize sample) == .ok (meaning sample)) = true := by decide +kernel

example : sample.Valid := by
  refine ⟨by decide, by simp [sample, ValidDiv], by simp [sample], by simp [sample], ?_⟩
  intro x hx
  simp only [sample, List.mem_singleton] at hx
  subst hx
  refine ⟨?_, ?_, ?_, ?_, ?_, ?_⟩
  · intro a ha; simp at ha; subst ha; exact ⟨rfl, by decide, by simp⟩
  · intro e he
    simp only [List.mem_cons, List.mem_nil_iff, or_false] at he
    rcases he with rfl | rfl | rfl | rfl | rfl <;>
      simp [GVlq.Valid, GVlq.bytes, Vlq.encode, Vlq.tailLE, GEv.Valid, Gram.oneData]
  · simp [elideOK, GEv.statusAfter]
  · simp [GVlq.Valid, GVlq.bytes, Vlq.encode, Vlq.tailLE]
  · decide
  · decide +kernel

end Midi.C02
