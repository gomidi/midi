import MidiModel.Sysex
import Proofs.GoSem
/-!
# C18: lemmas about the model of the sysex helpers

A read inside the bounds is rewritten to the total `bt[i]!` (`idx_eq`, `idx_of_le`), which carries no proof, so the rewrite
goes under `if`s and binders too. A parser whose reads all stand below a length test becomes a tree of `if`s on the `bt[i]!`:
`apply_ite` moves a comparison with `.panic`, or the map to the result of the translated parser, to its leaves, and two
parsers that read the same bytes end up with syntactically equal terms.
-/
namespace Midi.Sysex

theorem idx_eq {bt : Bytes} {i : Nat} (h : i < bt.length) : idx bt i = some bt[i]! := by
  rw [getElem!_pos bt i h]
  exact List.getElem?_eq_getElem h

/-- `simp only [idx_of_le hn, Nat.reduceLT]` rewrites every read below the length test `hn` -/
theorem idx_of_le {bt : Bytes} {n : Nat} (hn : n ≤ bt.length) {i : Nat} (h : i < n) : idx bt i = some bt[i]! :=
  idx_eq (Nat.lt_of_lt_of_le h hn)

theorem slice_eq {bt : Bytes} {lo hi : Nat} (h : lo ≤ hi) (h' : hi ≤ bt.length) :
    slice bt lo hi = some ((bt.take hi).drop lo) := if_pos ⟨h, h'⟩

theorem parseTail_no_panic (bt : Bytes) (s : Manufacturer) (h : 2 ≤ bt.length) : parseTail bt s ≠ .panic := by
  unfold parseTail
  rw [idx_eq (show bt.length - 2 < bt.length by omega), idx_eq (show bt.length - 1 < bt.length by omega)]
  simp only [ne_eq, apply_ite (· = PRes.panic), reduceCtorEq, ite_self, not_false_eq_true]

theorem parse_no_panic (bt : Bytes) : parse bt ≠ .panic := by
  unfold parse
  by_cases h11 : bt.length < 11
  case pos =>
    rw [if_pos h11]
    nofun
  rw [if_neg h11]
  have h11 : 11 ≤ bt.length := by omega
  simp only [idx_of_le h11, Nat.reduceLT, slice_eq (show 8 ≤ bt.length - 2 by omega) (Nat.sub_le _ _)]
  simp only [ne_eq, apply_ite (· = PRes.panic), reduceCtorEq, ite_self, not_false_eq_true,
    parseTail_no_panic bt _ (Nat.le_trans (by decide) h11)]

theorem goto_parse_no_panic (g : GoTo) (bt : Bytes) : GoTo.parse g bt ≠ .panic := by
  unfold GoTo.parse
  by_cases hl : bt.length = 13
  case neg =>
    rw [if_pos hl]
    nofun
  rw [if_neg (not_not_intro hl)]
  simp only [idx_of_le (Nat.le_of_eq hl.symm), Nat.reduceLT]
  simp only [ne_eq, apply_ite (· = MRes.panic), reduceCtorEq, ite_self, not_false_eq_true]

theorem msg_parse_no_panic (g : Message) (bt : Bytes) : Message.parse g bt ≠ .panic := by
  unfold Message.parse
  by_cases h5 : bt.length < 5
  case pos =>
    rw [if_pos h5]
    nofun
  rw [if_neg h5]
  have h5 : 5 ≤ bt.length := by omega
  simp only [idx_of_le h5, Nat.reduceLT, idx_eq (show bt.length - 1 < bt.length by omega)]
  -- the two slices stand under length tests of their own (`len < 8`, `len > 5`): by cases on these
  have s5 (h : ¬ bt.length < 8) : slice bt 5 (bt.length - 2) = some _ := slice_eq (by omega) (Nat.sub_le _ _)
  have s4 (h : bt.length > 5) : slice bt 4 (bt.length - 2) = some _ := slice_eq (by omega) (Nat.sub_le _ _)
  by_cases h8 : bt.length < 8 <;> by_cases h6 : bt.length > 5 <;>
    simp only [h8, h6, s5, s4, not_false_eq_true, if_true, if_false, ne_eq, apply_ite (· = MRes.panic), reduceCtorEq,
      ite_self]

theorem goto_parse_build (g0 v : GoTo) : GoTo.parse g0 v.build = .ok v := by
  cases v
  simp [GoTo.parse, GoTo.build, idx]

theorem sumU32_eq (l : Bytes) (acc : Nat) : sumU32 l (acc % 4294967296) = (acc + l.sum) % 4294967296 := by
  induction l generalizing acc with
  | nil => simp [sumU32]
  | cons b r ih => rw [sumU32, Nat.mod_add_mod, ih, List.sum_cons, Nat.add_assoc]

theorem toI32_mod (n : Nat) : toI32 (n % 4294967296) = Go.wrapS 32 n := by
  unfold toI32 Go.wrapS
  split <;> omega

/-- the `int32` accumulator of `Checksum` after the loop: the signed wrap of the mathematical sum -/
theorem sumI32_eq (l : Bytes) : sumI32 l = Go.wrapS 32 l.sum := by
  have := sumU32_eq l 0
  rw [Nat.zero_mod, Nat.zero_add] at this
  rw [sumI32, this, toI32_mod]

/-- also when the `int32` sum wraps -/
theorem cksumOf_spec (l : Bytes) : (l.sum + cksumOf l) % 128 = 0 ∧ cksumOf l < 256 := by
  have hs : (sumI32 l - ((l.sum : Nat) : Int)) % 4294967296 = 0 := by
    rw [sumI32_eq]
    unfold Go.wrapS
    omega
  have hq := Int.tmod_add_mul_tdiv (sumI32 l) 128
  have hlt := Int.tmod_lt_of_pos (sumI32 l) (b := 128) (by decide)
  have hgt := Int.lt_tmod_of_pos (sumI32 l) (b := 128) (by decide)
  unfold cksumOf
  generalize Int.tmod (sumI32 l) 128 = r at *
  generalize Int.tdiv (sumI32 l) 128 = q at *
  simp only []
  split <;> omega

/-- a sum below 2^31 (every message shorter than 8 MB) does not wrap: the remainder is the ordinary one -/
theorem cksumOf_lt_128 (l : Bytes) (h : l.sum < 2147483648) : cksumOf l < 128 := by
  unfold cksumOf
  rw [sumI32_eq, Go.wrapS_of_range 32 (by decide) _ (by omega) (by omega),
    Int.tmod_eq_emod_of_nonneg (Int.natCast_nonneg _)]
  simp only []
  split <;> omega

/-- `SysEx()`: five header bytes, the window that the checksum closes, the end marker -/
theorem build_window (s : Manufacturer) :
    build s = [0xF0, s.manu, s.dev, s.model, (if s.req then 0x11 else 0x12)] ++ (summed s ++ [checksum s]) ++ [0xF7] := by
  simp [build, summed]

theorem slice_mid (p bd t : Bytes) :
    slice (p ++ bd ++ t) p.length ((p ++ bd ++ t).length - t.length) = some bd := by
  rw [slice_eq (by simp only [List.length_append]; omega) (Nat.sub_le _ _), List.length_append, Nat.add_sub_cancel,
    List.take_left' rfl, List.drop_left' rfl]

theorem parseTail_frame (pre : Bytes) (c e : Nat) (s : Manufacturer) :
    parseTail (pre ++ [c, e]) s =
      if c ≠ checksum s then .err .badSum else if e ≠ 0xF7 then .err .noEnd else .ok s := by
  simp [parseTail, idx]

theorem checksum_norm (s : Manufacturer) : checksum s.norm = checksum s := by
  cases hr : s.req <;> simp [checksum, summed, body, Manufacturer.norm, hr]

/-- `Parse` on the message built from `s` (a data request, or a data set with at least one payload byte) with any byte `c`
    in the place of the checksum and any last byte `e` -/
theorem parse_frame (s : Manufacturer) (hv : s.req = true ∨ s.data ≠ []) (c e : Nat) :
    parse ([0xF0, s.manu, s.dev, s.model, (if s.req then 0x11 else 0x12)] ++ (summed s ++ [c]) ++ [e]) =
      if c ≠ checksum s then .err .badSum else if e ≠ 0xF7 then .err .noEnd else .ok s.norm := by
  rw [← checksum_norm]
  cases hr : s.req with
  | true => simp [parse, idx, parseTail, summed, body, Manufacturer.norm, hr]
  | false =>
    have hd : 0 < s.data.length := List.length_pos_iff.mpr (hv.resolve_left (by rw [hr]; nofun))
    have hn : s.norm = { manu := s.manu, dev := s.dev, model := s.model, req := false, a0 := s.a0, a1 := s.a1,
                         a2 := s.a2, data := s.data, n0 := 0, n1 := 0, n2 := 0 } := by
      simp [Manufacturer.norm, hr]
    rw [hn]
    -- the message is `p ++ s.data ++ [c, e]` with `p` the eight bytes before the payload
    have hsl := slice_mid [0xF0, s.manu, s.dev, s.model, 0x12, s.a0, s.a1, s.a2] s.data [c, e]
    unfold parse
    simp only [summed, body, hr, Bool.false_eq_true, if_false, idx, List.cons_append, List.nil_append, List.append_assoc,
      List.length_cons, List.length_nil, List.getElem?_cons_zero, List.getElem?_cons_succ] at hsl ⊢
    rw [if_neg (by simp only [List.length_append, List.length_cons, List.length_nil]; omega)]
    simp only [hsl, ne_eq, not_true_eq_false, ↓reduceIte, Nat.reduceEqDiff, and_false, Nat.reduceBEq]
    exact parseTail_frame ([0xF0, s.manu, s.dev, s.model, 0x12, s.a0, s.a1, s.a2] ++ s.data) c e _

/-! ## single-byte corruptions

The window `summed s ++ [checksum s]` of `build_window` sums to a multiple of 128. Replacing one byte of it by another
7-bit value moves the sum by less than 128: the new last byte of the window is not the checksum of the bytes before it,
whichever byte was hit (`set_snoc`, `build_set`: again a list and a last byte, the sum moved by `b' - b`), and `Parse`
rejects every window of the right length whose sum is not a multiple of 128 (`parse_window_badSum`). -/

theorem sum_set (l : Bytes) (j x b : Nat) (h : l[j]? = some b) : (l.set j x).sum + b = l.sum + x := by
  induction l generalizing j with
  | nil => simp at h
  | cons a r ih =>
    cases j with
    | zero =>
      obtain rfl : a = b := by simpa using h
      simp only [List.set_cons_zero, List.sum_cons]
      omega
    | succ j =>
      simp only [List.getElem?_cons_succ] at h
      have := ih j h
      simp only [List.set_cons_succ, List.sum_cons]
      omega

theorem set_snoc (sm : Bytes) (c j b b' : Nat) (hb : (sm ++ [c])[j]? = some b) :
    ∃ sm' c', (sm ++ [c]).set j b' = sm' ++ [c'] ∧ sm'.length = sm.length ∧
      sm'.sum + c' + b = sm.sum + c + b' := by
  by_cases hj : j < sm.length
  · rw [List.getElem?_append_left hj] at hb
    refine ⟨sm.set j b', c, by rw [List.set_append, if_pos hj], List.length_set, ?_⟩
    have := sum_set sm j b' b hb
    omega
  · have hj' : j = sm.length := by
      have := (List.getElem?_eq_some_iff.mp hb).1
      simp only [List.length_append, List.length_cons, List.length_nil] at this
      omega
    subst hj'
    rw [List.getElem?_append_right (Nat.le_refl _), Nat.sub_self] at hb
    have hc : c = b := by simpa using hb
    refine ⟨sm, b', by rw [List.set_append, if_neg hj, Nat.sub_self]; rfl, rfl, ?_⟩
    omega

/-- one byte of the built message between the header and the end marker replaced: again header, a window of the same
    length, end marker (position `i` is position `i - 5` of the window) -/
theorem build_set (s : Manufacturer) (i b b' : Nat) (hi : 5 ≤ i) (hi' : i + 2 ≤ (build s).length)
    (hb : (build s)[i]? = some b) :
    ∃ sm' c', (build s).set i b' =
        [0xF0, s.manu, s.dev, s.model, (if s.req then 0x11 else 0x12)] ++ (sm' ++ [c']) ++ [0xF7] ∧
      sm'.length = (summed s).length ∧ sm'.sum + c' + b = (summed s).sum + checksum s + b' := by
  obtain ⟨j, rfl⟩ : ∃ j, i = j + 5 := ⟨i - 5, by omega⟩
  rw [build_window] at hi' hb ⊢
  have hj : j < (summed s ++ [checksum s]).length := by
    simp only [List.length_append, List.length_cons, List.length_nil] at hi' ⊢
    omega
  simp only [List.cons_append, List.nil_append, List.getElem?_cons_succ, List.set_cons_succ] at hb ⊢
  rw [List.getElem?_append_left hj] at hb
  rw [List.set_append, if_pos hj]
  obtain ⟨sm', c', hset, h⟩ := set_snoc (summed s) (checksum s) j b b' hb
  exact ⟨sm', c', by rw [hset], h⟩

theorem parse_window_badSum (s : Manufacturer) (hv : s.req = true ∨ s.data ≠ []) (sm' : Bytes) (c' e : Nat)
    (hlen : sm'.length = (summed s).length) (hsum : (sm'.sum + c') % 128 ≠ 0) :
    parse ([0xF0, s.manu, s.dev, s.model, (if s.req then 0x11 else 0x12)] ++ (sm' ++ [c']) ++ [e]) = .err .badSum := by
  -- the window has the length of the kind, so it is what `Checksum` sums for a sendable value with the header of `s`
  obtain ⟨s', rfl, hv', hh⟩ : ∃ s', summed s' = sm' ∧ (s'.req = true ∨ s'.data ≠ []) ∧
      [0xF0, s'.manu, s'.dev, s'.model, (if s'.req then 0x11 else 0x12)] =
        [0xF0, s.manu, s.dev, s.model, (if s.req then 0x11 else 0x12)] := by
    cases hr : s.req with
    | true =>
      simp only [summed, body, hr, if_true, List.length_cons, List.length_nil, List.cons_append, List.nil_append] at hlen
      match sm', hlen with
      | [x0, x1, x2, x3, x4, x5], _ =>
        exact ⟨{ s with a0 := x0, a1 := x1, a2 := x2, n0 := x3, n1 := x4, n2 := x5 }, by simp [summed, body, hr],
          .inl hr, by simp [hr]⟩
    | false =>
      simp only [summed, body, hr, Bool.false_eq_true, if_false, List.length_cons, List.cons_append,
        List.nil_append] at hlen
      match sm', hlen with
      | x0 :: x1 :: x2 :: d, hl =>
        have hd : d ≠ [] := by
          intro h
          subst h
          exact hv.resolve_left (by rw [hr]; nofun) (List.eq_nil_of_length_eq_zero (by simpa using hl.symm))
        exact ⟨{ s with a0 := x0, a1 := x1, a2 := x2, data := d }, by simp [summed, body, hr], .inr hd, by simp [hr]⟩
  rw [← hh, parse_frame s' hv', if_pos]
  exact fun hc => hsum (hc ▸ (cksumOf_spec (summed s')).1)

end Midi.Sysex
