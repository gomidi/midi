import Props.C03_Code
/-!
# C15, tie to the source: `utils.VlqEncode` (the payload length of every meta constructor) as translated from
`internal/utils/utils.go` is the model's `Vlq.encode` (proved in `Props/C03_Code.lean`).
-/
namespace Midi.C15
open Midi Midi.Go

theorem code_VlqEncode (n : Nat) (h : n < 4294967296) : utils.VlqEncode n = .ok (Vlq.encode n) :=
  Midi.C03.code_VlqEncode n h

end Midi.C15
