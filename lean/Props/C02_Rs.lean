import Props.C01_Rs
/-!
# C02, tie to the source: the running-status reader of `internal/runningstatus` (`smfreader.Read`) as translated follows
the rule the reader model `Smf.readEvent` applies (proved in `Props/C01_Rs.lean`).
-/
namespace Midi.C02
open Midi Midi.Go

theorem code_rsRead (rr c : Nat) :
    runningstatus.smfreader.Read ⟨⟨rr⟩⟩ c =
      .ok (if c = 0xFF ∨ c = 0xF0 ∨ c = 0xF7 then (⟨⟨0⟩⟩, 0, true)
           else if Smf.isChanStatus c then (⟨⟨c⟩⟩, c, true) else (⟨⟨rr⟩⟩, rr, false)) :=
  Midi.C01.code_rsRead rr c

end Midi.C02
