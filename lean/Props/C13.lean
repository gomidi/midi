import Proofs.RecordValid
import Props.C01
import Props.C03
/-!
# C13 — recording a live stream yields a valid file with faithful timing

Model: `MidiModel/Record.lean` (`record` = the listener callback of `Track.RecordFrom`, statement by statement,
folded over what the listener receives; `received toks` = what `midi.ListenTo` *without options* hands to that
callback for the token stream `toks` on the port — `Live.listen` with sysex, active sense and timing clock off;
`recordLive` = their composition; `fileOf` = `Close(0)`, `smf.New()`, `MetricTicks(res)`, `Add`).
The conversion `MetricTicks.Ticks` (float64) is the parameter `ticksOf`; `ticksRef` is its exact rational
reference (the named partial aspect: that the float code agrees with `ticksRef` is validated differentially).

All theorems quantify over **every** token stream `toks`: any bytes (channel, real-time, system common, sysex,
stray data — not even restricted to values < 256), any chunking, any clock ticks; over every tempo message and
every conversion function, unless a hypothesis says otherwise. Hypotheses:
* `tempoMsg ≠ EOT` — the first event is not an end-of-track (with `EOT` the Go code, too, would record
  nothing: `Add` on a closed track is a no-op; `MetaTempo` never yields it, see the examples);
* `Forward toks`, `elapsed toks < 2^31` — the driver's clock does not run backwards and the recording is
  shorter than 2^31 ms (the `int32` stamp of the drivers), needed only where *exact* differences are claimed;
* `record_valid`: deltas < 2^28 (4-byte VLQ of the strict format), fewer than 2^27 events (32-bit chunk
  length), a resolution 1..32767.
-/
namespace Midi.C13
open Midi Midi.Smf Midi.Live Midi.Record

/-- Recording never panics: for every token stream the re-typing step of `ListenTo` succeeds on every
    frame, the callback is invoked on a well-defined list `ms` of (message, stamp) pairs — exactly the
    frames of the decoder that pass the driver's filter (no options: active sense, timing clock and sysex are dropped),
    re-typed, in order — and the outcome is `record … ms`. -/
theorem record_total (ticksOf : Int → Nat) (tempoMsg : Bytes) (toks : List Tok) :
    ∃ ms, received toks = some ms ∧
      ms = (feed recCfg init toks).2.filterMap (msgOfFrame recCfg) ∧
      recordLive ticksOf tempoMsg toks = some (record ticksOf tempoMsg ms) :=
  ⟨_, received_eq toks, rfl, by simp [recordLive, received_eq]⟩

/-- The recorded track is the tempo event followed by exactly the channel messages the listener
    received, bytes unchanged, in arrival order; everything else that arrived is not recorded.
    (`_h` says which list the property speaks of; the equations hold of every list `ms`.) -/
theorem record_track (ticksOf : Int → Nat) (tempoMsg : Bytes) (toks : List Tok) (ms : List (Bytes × Int))
    (ht : tempoMsg ≠ EOT) (_h : received toks = some ms) :
    (record ticksOf tempoMsg ms).map (·.msg) = tempoMsg :: (chanMsgs ms).map (·.1) ∧
    (record ticksOf tempoMsg ms).length = (chanMsgs ms).length + 1 := by
  obtain ⟨h1, _⟩ := record_eq ticksOf tempoMsg ms ht
  rw [h1]
  simp [recEvents_msgs, recEvents_length]

/-- Deltas: 0 for the tempo event; for the i-th recorded message the conversion of the (int32) difference
    between its stamp and the stamp of the previously *recorded* message (0 before the first).
    (Of every list `ms`, as in `record_track`.) -/
theorem record_deltas (ticksOf : Int → Nat) (tempoMsg : Bytes) (toks : List Tok) (ms : List (Bytes × Int))
    (ht : tempoMsg ≠ EOT) (_h : received toks = some ms) :
    (record ticksOf tempoMsg ms).map (·.delta) =
      0 :: List.zipWith (fun t p => ticksOf (wrap32 (t - p)))
        ((chanMsgs ms).map (·.2)) (0 :: (chanMsgs ms).map (·.2)) := by
  obtain ⟨h1, _⟩ := record_eq ticksOf tempoMsg ms ht
  rw [h1]
  simp [recEvents_deltas]

/-- With a clock that only moves forward and a recording shorter than 2^31 ms the stamps of the recorded
    messages are non-negative and non-decreasing, no `int32` wrap occurs, and the deltas are the conversion
    of the exact stamp differences. -/
theorem record_deltas_forward (ticksOf : Int → Nat) (tempoMsg : Bytes) (toks : List Tok)
    (ms : List (Bytes × Int)) (ht : tempoMsg ≠ EOT) (h : received toks = some ms)
    (hfw : Forward toks) (hel : elapsed toks < 2147483648) :
    (0 :: (chanMsgs ms).map (·.2)).Pairwise (· ≤ ·) ∧
    (record ticksOf tempoMsg ms).map (·.delta) =
      0 :: List.zipWith (fun t p => ticksOf (t - p)) ((chanMsgs ms).map (·.2)) (0 :: (chanMsgs ms).map (·.2)) := by
  obtain ⟨hb, hp⟩ := received_stamps toks hfw ms h
  have hsub : ((chanMsgs ms).map (·.2)).Sublist (ms.map (·.2)) := (List.filter_sublist).map _
  have hb' : ∀ t ∈ 0 :: (chanMsgs ms).map (·.2), 0 ≤ t ∧ t < 2147483648 := by
    intro t ht'
    rcases List.mem_cons.1 ht' with rfl | ht'
    · omega
    · obtain ⟨m, hm, rfl⟩ := List.mem_map.1 (hsub.subset ht')
      have := hb m hm
      omega
  have hb'' := fun t ht' => hb' t (List.mem_cons_of_mem _ ht')
  refine ⟨List.pairwise_cons.2 ⟨fun t ht' => (hb'' t ht').1, hp.sublist hsub⟩, ?_⟩
  rw [record_deltas ticksOf tempoMsg toks ms ht h, zipWith_wrap32 ticksOf _ _ hb'' hb']

/-- Faithful timing for the rational reference conversion at resolution `q` and tempo `bn/bd` BPM: the
    delta of the i-th recorded message is `ticksRef` of the non-negative stamp difference `Δ = t − p`
    to its predecessor, and `|delta − q·(bn/bd)·Δ/60000| ≤ 1/2` (multiplied out by `60000·bd`). -/
theorem record_delta_exact (q bn bd : Nat) (hbd : 0 < bd) (tempoMsg : Bytes) (toks : List Tok)
    (ms : List (Bytes × Int)) (ht : tempoMsg ≠ EOT) (h : received toks = some ms)
    (hfw : Forward toks) (hel : elapsed toks < 2147483648) (i : Nat) (t p : Int)
    (hti : ((chanMsgs ms).map (·.2))[i]? = some t) (hpi : (0 :: (chanMsgs ms).map (·.2))[i]? = some p) :
    0 ≤ t - p ∧
    ((record (ticksRef q bn bd) tempoMsg ms)[i + 1]?).map (·.delta) = some (ticksRef q bn bd (t - p)) ∧
    2 * ((ticksRef q bn bd (t - p) : Int) * (60000 * bd) - q * bn * (t - p)).natAbs ≤ 60000 * bd := by
  obtain ⟨hpw, hd⟩ := record_deltas_forward (ticksRef q bn bd) tempoMsg toks ms ht h hfw hel
  -- `p` and `t` are neighbours in the sorted list of stamps
  obtain ⟨hi, ep⟩ := List.getElem?_eq_some_iff.1 hpi
  obtain ⟨hj, et⟩ := List.getElem?_eq_some_iff.1 (show (0 :: (chanMsgs ms).map (·.2))[i + 1]? = some t from hti)
  have hle := List.pairwise_iff_getElem.1 hpw i (i + 1) hi hj (Nat.lt_succ_self i)
  rw [ep, et] at hle
  have hΔ : 0 ≤ t - p := by omega
  refine ⟨hΔ, ?_, ticksRef_exact q bn bd hbd (t - p) hΔ⟩
  have := congrArg (fun l => l[i + 1]?) hd
  simp only [List.getElem?_map, List.getElem?_cons_succ, List.getElem?_zipWith] at this
  rw [this]
  simp only [List.getElem?_map] at hti
  rw [hti, hpi]

/-- Every recorded message after the tempo event is a well-formed channel message: status 0x80..0xEF, one
    data byte for program change / channel pressure and two otherwise, all data bytes < 0x80 — whatever
    bytes arrived on the port. -/
theorem record_only_channel (ticksOf : Int → Nat) (tempoMsg : Bytes) (toks : List Tok)
    (ms : List (Bytes × Int)) (ht : tempoMsg ≠ EOT) (h : received toks = some ms) :
    ∀ e ∈ (record ticksOf tempoMsg ms).drop 1,
      ∃ st d1 d2, (Ev.chan st d1 d2).Valid ∧ e.msg = (Ev.chan st d1 d2).toBytes := by
  intro e he
  rw [(record_eq ticksOf tempoMsg ms ht).1] at he
  obtain ⟨m, hm, hc, em⟩ := recEvents_mem ticksOf ms 0 e he
  exact em ▸ received_chanWF h m hm hc

/-- The recording, closed with delta 0 and added to a new format-0 file with a metric division, lies in
    the domain of C01's `roundtrip` and of C03's `strict_of_write`; hence (corollaries of those two
    theorems) `WriteTo` succeeds, the strict SMF 1.0 parser accepts the bytes, and both it and `ReadFrom`
    return exactly the recorded events followed by the end-of-track. -/
theorem record_valid (rsOn : Bool) (ticksOf : Int → Nat) (ty : Nat) (d : Bytes) (res : Nat)
    (toks : List Tok) (ms : List (Bytes × Int))
    (hty : ty < 256) (hne : ty ≠ 0x2F) (hd : d.length < 268435456) (hres : 1 ≤ res ∧ res ≤ 32767)
    (h : received toks = some ms)
    (hδ : ∀ e ∈ record ticksOf (Ev.metaEv ty d).toBytes ms, e.delta < 268435456)
    (hn : (record ticksOf (Ev.metaEv ty d).toBytes ms).length < 134217728) :
    Dom (fileOf res (record ticksOf (Ev.metaEv ty d).toBytes ms)) ∧
    C03.StrictDom rsOn (fileOf res (record ticksOf (Ev.metaEv ty d).toBytes ms)) ∧
    ∃ w, writeTo rsOn (fileOf res (record ticksOf (Ev.metaEv ty d).toBytes ms)) = .ok w ∧
      Strict.parse w = some ⟨0, .metric res, [record ticksOf (Ev.metaEv ty d).toBytes ms ++ [⟨0, EOT⟩]]⟩ ∧
      readFrom w = .ok ⟨0, .metric res, [record ticksOf (Ev.metaEv ty d).toBytes ms ++ [⟨0, EOT⟩]]⟩ := by
  obtain ⟨hs, hprep⟩ := record_strictDom rsOn ticksOf ty d res ms hty hne hd hres (received_chanWF h) hδ hn
  obtain ⟨w, hw, hr⟩ := C01.roundtrip rsOn _ hs.dom
  obtain ⟨w', hw', hp⟩ := C03.strict_of_write rsOn _ hs
  rw [hw] at hw'
  cases hw'
  rw [hprep] at hr hp
  exact ⟨hs.dom, hs, w, hw, hp, hr⟩

/-! ## Non-vacuity

A concrete stream: a note-on, then in one chunk a real-time `FA`, the note-off under a new status, then a
system-common `F3 05` and a stray data byte, a sysex `F0 01 F7`, an active-sense `FE`, finally a program
change and — under running status — a second one. -/
def sampleToks : List Tok :=
  chunkToks [(10, [0x90, 0x3C, 0x40]), (500, [0xFA, 0x80, 0x3C, 0x00]), (0, [0xF3, 0x05, 0x12]),
    (7, [0xF0, 0x01, 0xF7, 0xFE]), (250, [0xC0, 0x05]), (1, [0x06])]

def sampleMs : List (Bytes × Int) :=
  [([0x90, 0x3C, 0x40], 10), ([0xFA], 510), ([0x80, 0x3C, 0x00], 510), ([0xF3, 0x05], 510),
   ([0xC0, 0x05], 767), ([0xC0, 0x06], 768)]

/-- the hypothesis `received toks = some ms` of the theorems is met (and non-channel messages do arrive) -/
example : received sampleToks = some sampleMs := by decide +kernel

example : Forward sampleToks ∧ elapsed sampleToks < 2147483648 := by
  constructor
  · intro d hd
    simp [sampleToks, chunkToks] at hd
    omega
  · decide

/-- `MetaTempo` yields `FF 51 03 …` (C15: `tempo_field_roundtrip`), which is not the end-of-track message, a meta
    event of type `0x51 ≠ 0x2F` with a 3-byte payload -/
example (u : Nat) : [0xFF, 0x51, 0x03, u / 65536, u / 256 % 256, u % 256] ≠ EOT := by simp [EOT]
example (a b c : Nat) : (Ev.metaEv 0x51 [a, b, c]).toBytes = [0xFF, 0x51, 0x03, a, b, c] := by
  simp [Ev.toBytes, Vlq.encode, Vlq.tailLE]
example : Meta.metaTempoRat 120 1 = (Ev.metaEv 0x51 [0x07, 0xA1, 0x20]).toBytes := by decide +kernel

/-- the executable model on the sample at 480 ticks per quarter note and 120 BPM: four channel messages
    recorded, `FA`, `F3 05`, the stray byte, the sysex and `FE` are not; 10 ms = 9.6 → 10 ticks, 500 ms =
    480 ticks, 257 ms = 246.72 → 247 ticks, 1 ms = 0.96 → 1 tick -/
example : recordLive (ticksRef 480 120 1) (Meta.metaTempoRat 120 1) sampleToks =
    some [⟨0, [0xFF, 0x51, 0x03, 0x07, 0xA1, 0x20]⟩, ⟨10, [0x90, 0x3C, 0x40]⟩, ⟨480, [0x80, 0x3C, 0x00]⟩,
      ⟨247, [0xC0, 0x05]⟩, ⟨1, [0xC0, 0x06]⟩] := by decide +kernel

/-- the bounds of `record_valid` hold for it -/
example : (∀ e ∈ record (ticksRef 480 120 1) (Ev.metaEv 0x51 [0x07, 0xA1, 0x20]).toBytes sampleMs, e.delta < 268435456) ∧
    (record (ticksRef 480 120 1) (Ev.metaEv 0x51 [0x07, 0xA1, 0x20]).toBytes sampleMs).length < 134217728 := by
  decide +kernel

/-- and the written file of the executable model is what the theorem says -/
example : (match writeTo true (fileOf 480 (record (ticksRef 480 120 1) (Meta.metaTempoRat 120 1) sampleMs)) with
    | .ok w => Strict.parse w == some ⟨0, .metric 480, [record (ticksRef 480 120 1) (Meta.metaTempoRat 120 1) sampleMs ++ [⟨0, EOT⟩]]⟩
        && readFrom w == .ok ⟨0, .metric 480, [record (ticksRef 480 120 1) (Meta.metaTempoRat 120 1) sampleMs ++ [⟨0, EOT⟩]]⟩
    | _ => false) = true := by decide +kernel

/-- a tie of the reference conversion is rounded up like `math.Round` (1 ms at resolution 100 and 300 BPM
    is exactly half a tick → 1), and there the bound of `record_delta_exact` is attained -/
example : ticksRef 100 300 1 1 = 1 ∧
    2 * ((ticksRef 100 300 1 1 : Int) * (60000 * 1) - 100 * 300 * 1).natAbs = 60000 * 1 := by decide +kernel

end Midi.C13
