import MidiModel.Generated.StateShape
import Proofs.StateShapeExpected
/-!
# C20, tie to the source: the state the code keeps has the shape the model assumes
(the packages this property's models read; the comparison is explained in `Props/C01_State.lean`)
-/
namespace Midi.C20
theorem code_state_shape_sequencer : Midi.StateShape.sequencer = Midi.StateShapeExpected.sequencer := rfl
theorem code_state_shape_smf : Midi.StateShape.smf = Midi.StateShapeExpected.smf := rfl
end Midi.C20
