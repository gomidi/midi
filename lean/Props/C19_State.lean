import MidiModel.Generated.StateShape
import Proofs.StateShapeExpected
/-!
# C19, tie to the source: the state the code keeps has the shape the model assumes
(the packages this property's models read; the comparison is explained in `Props/C01_State.lean`)
-/
namespace Midi.C19
theorem code_state_shape_drivers_midicat : Midi.StateShape.drivers_midicat = Midi.StateShapeExpected.drivers_midicat := rfl
theorem code_state_shape_drivers_midicatdrv : Midi.StateShape.drivers_midicatdrv = Midi.StateShapeExpected.drivers_midicatdrv := rfl
end Midi.C19
