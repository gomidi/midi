import MidiModel.Generated.StateShape
import Proofs.StateShapeExpected
/-!
# C06, tie to the source: the state the code keeps has the shape the model assumes
(the packages this property's models read; the comparison is explained in `Props/C01_State.lean`)
-/
namespace Midi.C06
theorem code_state_shape_drivers : Midi.StateShape.drivers = Midi.StateShapeExpected.drivers := rfl
theorem code_state_shape_root : Midi.StateShape.root = Midi.StateShapeExpected.root := rfl
end Midi.C06
