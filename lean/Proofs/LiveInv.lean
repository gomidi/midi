import Proofs.LiveRetype
/-!
# Live decoder (`MidiModel/Live.lean`): invariant, well-formed frames, what `retype` does to them

`Inv c s` is the invariant of `drivers.Reader`, carried through the byte classes of `Proofs/LiveStep.lean`; `WfFrame c f`
the raw frames the reader hands to the driver callback; `WellFormedMsg c m` a delivered `midi.Message`. `retype` makes such
a message of every well-formed frame but the lone `F7` (`retype_wf`); hence what is delivered from a state with `Inv`.
-/
namespace Midi.Live
open Midi Midi.Msg

theorem bufSize_pos (c : Cfg) : 1 ≤ c.bufSize := by
  unfold Cfg.bufSize; split <;> omega

/-- Invariant of the decoder state under configuration `c` (only the sysex-buffer bound depends on `c`). -/
structure Inv (c : Cfg) (s : St) : Prop where
  /-- running status is a channel status byte and `typ` is its high nibble -/
  typ_of_status : s.status ≠ 0 → s.typ = s.status / 16 ∧ 0x80 ≤ s.status ∧ s.status ≤ 0xEF
  chan_status : s.mode = .chan → s.status ≠ 0
  sysc_typ : s.mode = .sysc → s.typ = 0xF1 ∨ s.typ = 0xF2 ∨ s.typ = 0xF3
  pend_data : ∀ x, s.pend = some x → x < 0x80
  pend_mode : s.pend ≠ none → s.mode = .chan ∨ s.mode = .sysc
  /-- the sysex buffer is dropped (`[]`) or `F0 :: data`, within the configured size -/
  sx_sysex : s.mode = .sysex →
    s.sx = [] ∨ ∃ d, s.sx = 0xF0 :: d ∧ (∀ x ∈ d, x < 0x80) ∧ s.sx.length ≤ c.bufSize
  sx_other : s.mode ≠ .sysex → s.sx = []
  no_panic : s.panicked = false

/-- raw frames of the reader: `[real-time]`, a fixed three-byte frame `[status, d1, d2]` (channel voice, F1, F2,
    F3, F6, lone F7), or a complete sysex (only with the sysex option, within the buffer size) -/
def WfFrame (c : Cfg) (f : Frame) : Prop :=
  (∃ b, f.1 = [b] ∧ 0xF8 ≤ b) ∨
  (∃ st d1 d2, f.1 = [st, d1, d2] ∧ d1 < 0x80 ∧ d2 < 0x80 ∧
      ((0x80 ≤ st ∧ st ≤ 0xEF) ∨ st = 0xF1 ∨ st = 0xF2 ∨ st = 0xF3 ∨ st = 0xF6 ∨ st = 0xF7)) ∨
  (c.sysex = true ∧ ∃ d, f.1 = 0xF0 :: (d ++ [0xF7]) ∧ (∀ x ∈ d, x < 0x80) ∧ f.1.length ≤ c.bufSize)

theorem init_inv (c : Cfg) : Inv c init := by
  constructor <;> simp [init]

theorem pend_none_of (c : Cfg) (s : St) (h : Inv c s) (hc : s.mode ≠ .chan) (hs : s.mode ≠ .sysc) : s.pend = none := by
  cases hpe : s.pend with
  | none => rfl
  | some x => rcases h.pend_mode (by simp [hpe]) with h | h <;> contradiction

theorem reset_inv (c : Cfg) (s : St) (h : Inv c s) : Inv c { s with mode := .clean, pend := none, sx := [] } :=
  { h with chan_status := by simp, sysc_typ := by simp, pend_data := by simp, pend_mode := by simp,
           sx_sysex := by simp, sx_other := fun _ => rfl }

theorem completed_inv (c : Cfg) (s : St) (h : Inv c s) (hm : s.mode ≠ .sysex) :
    Inv c { s with pend := none, mode := .clean } :=
  h.sx_other hm ▸ reset_inv c s h

theorem hold_inv (c : Cfg) (s : St) (b : Nat) (h : Inv c s) (hm : s.mode = .chan ∨ s.mode = .sysc) (hb : b < 0x80) :
    Inv c { s with pend := some b } :=
  { h with pend_data := fun x hx => by simp at hx; omega, pend_mode := fun _ => hm }

/-- under the invariant nothing is pending outside a channel / system common message and no buffer is left outside a
    sysex: the two `if`s of the state a status byte finds (`St.idle`) go -/
theorem idle_eq (c : Cfg) (s : St) (h : Inv c s) : s.idle = { s with mode := .clean, pend := none, sx := [] } := by
  have hp : (if s.mode = .chan ∨ s.mode = .sysc then none else s.pend) = none := by
    split
    · rfl
    · next hm => exact pend_none_of c s h (fun e => hm (Or.inl e)) (fun e => hm (Or.inr e))
  have hx : (if s.mode = .sysex then [] else s.sx) = [] := by
    split
    · rfl
    · next hm => exact h.sx_other hm
  rw [St.idle, hp, hx]

/-- running status: between messages with a status the decoder is as good as inside a message of that status -/
theorem running_inv (c : Cfg) (s : St) (h : Inv c s) (hm : s.mode = .clean) (hs : s.status ≠ 0) :
    Inv c { s with mode := .chan } :=
  { h with chan_status := fun _ => hs, sysc_typ := by simp, pend_mode := fun _ => Or.inl rfl, sx_sysex := by simp,
           sx_other := fun _ => h.sx_other (by simp [hm]) }

theorem wf_nil (c : Cfg) : ∀ f ∈ ([] : List Frame), WfFrame c f := by simp

theorem wf3 (c : Cfg) (st d1 d2 : Nat) (t : Int) (h1 : d1 < 0x80) (h2 : d2 < 0x80)
    (hst : (0x80 ≤ st ∧ st ≤ 0xEF) ∨ st = 0xF1 ∨ st = 0xF2 ∨ st = 0xF3 ∨ st = 0xF6 ∨ st = 0xF7) :
    ∀ f ∈ [(([st, d1, d2] : Bytes), t)], WfFrame c f := by
  intro f hf
  simp at hf
  subst hf
  exact Or.inr (Or.inl ⟨st, d1, d2, rfl, h1, h2, hst⟩)

theorem WfFrame.cons {c : Cfg} {f : Frame} (h : WfFrame c f) : ∃ b r, f.1 = b :: r ∧ (b < 0xF8 ∨ r = []) := by
  rcases h with ⟨b, e, _⟩ | ⟨st, d1, d2, e, _, _, hst⟩ | ⟨_, d, e, _⟩
  · exact ⟨b, [], e, Or.inr rfl⟩
  · exact ⟨st, _, e, Or.inl (by omega)⟩
  · exact ⟨0xF0, _, e, Or.inl (by omega)⟩

theorem withinChan_inv (c : Cfg) (s : St) (b : Nat) (h : Inv c s) (hm : s.mode = .chan) (hb : b < 0x80) :
    Inv c (withinChan s b).1 ∧ ∀ f ∈ (withinChan s b).2, WfFrame c f := by
  obtain ⟨ht, hlo, hhi⟩ := h.typ_of_status (h.chan_status hm)
  have hne : s.mode ≠ .sysex := by simp [hm]
  by_cases h1 : s.typ = 0xD ∨ s.typ = 0xC
  · rw [withinChan_only s b h1]
    exact ⟨completed_inv c s h hne, wf3 c _ _ _ _ hb (by omega) (Or.inl ⟨hlo, hhi⟩)⟩
  · -- `typ` is the high nibble of a channel status, so the `panic` branch is out of reach
    have h2 : TwoData s.typ := by unfold TwoData; omega
    cases hp : s.pend with
    | none =>
      rw [withinChan_first s b h2 hp]
      exact ⟨hold_inv c s b h (Or.inl hm) hb, wf_nil c⟩
    | some x =>
      rw [withinChan_second s x b h2 hp]
      exact ⟨completed_inv c s h hne, wf3 c _ _ _ _ (h.pend_data x hp) hb (Or.inl ⟨hlo, hhi⟩)⟩

theorem syscStep_inv (c : Cfg) (s : St) (b : Nat) (h : Inv c s) (hm : s.mode = .sysc) (hb : b < 0x80) :
    Inv c (syscStep s b).1 ∧ ∀ f ∈ (syscStep s b).2, WfFrame c f := by
  have hne : s.mode ≠ .sysex := by simp [hm]
  by_cases h1 : s.typ = 0xF1 ∨ s.typ = 0xF3
  · rw [syscStep_only s b h1]
    exact ⟨completed_inv c s h hne, wf3 c _ _ _ _ hb (by omega) (by omega)⟩
  · have h2 : s.typ = 0xF2 := by have := h.sysc_typ hm; omega
    cases hp : s.pend with
    | none =>
      rw [syscStep_first s b h2 hp]
      exact ⟨hold_inv c s b h (Or.inr hm) hb, wf_nil c⟩
    | some x =>
      rw [syscStep_second s x b h2 hp]
      exact ⟨completed_inv c s h hne, wf3 c _ _ _ _ (h.pend_data x hp) hb (by simp)⟩

theorem sx_append_inv (c : Cfg) (s : St) (b : Nat) (h : Inv c s) (hm : s.mode = .sysex) (hb : b < 0x80) :
    Inv c { s with sx := if c.sysex ∧ s.sx ≠ [] then (if s.sx.length < c.bufSize then s.sx ++ [b] else []) else s.sx } := by
  refine { h with sx_sysex := fun _ => ?_, sx_other := fun hne => absurd hm hne }
  show (if c.sysex ∧ s.sx ≠ [] then (if s.sx.length < c.bufSize then s.sx ++ [b] else []) else s.sx) = [] ∨ _
  split
  · split
    · next hc hl =>
      rcases h.sx_sysex hm with he | ⟨d, hd, hdd, _⟩
      · exact absurd he hc.2
      · refine Or.inr ⟨d ++ [b], by simp [hd], ?_, ?_⟩
        · intro x hx
          simp at hx
          rcases hx with hx | rfl
          · exact hdd x hx
          · omega
        · simp only [List.length_append, List.length_cons, List.length_nil]
          omega
    · exact Or.inl rfl
  · exact h.sx_sysex hm

theorem cleanState_status_inv (c : Cfg) (s : St) (b : Nat) (h : Inv c s) (hm : s.mode = .clean) (hp : s.pend = none)
    (hx : s.sx = []) (h1 : 0x80 ≤ b) (h2 : b < 0xF8) :
    Inv c (cleanState s b).1 ∧ ∀ f ∈ (cleanState s b).2, WfFrame c f := by
  rcases status_cases h1 h2 with hc | hs | hu | rfl | rfl | rfl
  · rw [cleanState_chanStatus s b hc.1 hc.2]
    exact ⟨{ h with typ_of_status := fun _ => ⟨rfl, hc.1, hc.2⟩, chan_status := fun _ => by simp; omega,
                    sysc_typ := by simp, pend_data := by simp, pend_mode := by simp, sx_sysex := by simp,
                    sx_other := fun _ => hx }, wf_nil c⟩
  · rw [cleanState_syscStatus s b hs]
    exact ⟨{ h with typ_of_status := by simp, chan_status := by simp, sysc_typ := fun _ => hs, pend_data := by simp,
                    pend_mode := by simp, sx_sysex := by simp, sx_other := fun _ => hx }, wf_nil c⟩
  · rw [cleanState_undefined s b hu]
    exact ⟨{ h with typ_of_status := by simp, chan_status := by simp, sysc_typ := by simp, pend_data := by simp,
                    pend_mode := by simp, sx_sysex := by simp, sx_other := fun _ => hx }, wf_nil c⟩
  · rw [cleanState_tune]
    exact ⟨{ h with typ_of_status := by simp, chan_status := by simp [hm], pend_data := by simp, pend_mode := by simp },
      wf3 c _ _ _ _ (by omega) (by omega) (by simp)⟩
  · rw [cleanState_sxStart]
    exact ⟨{ h with typ_of_status := by simp, chan_status := by simp, sysc_typ := by simp, pend_mode := by simp [hp],
                    sx_sysex := fun _ => Or.inr ⟨[], rfl, by simp, by simpa using bufSize_pos c⟩,
                    sx_other := by simp }, wf_nil c⟩
  · rw [cleanState_sxEnd]
    exact ⟨{ h with typ_of_status := by simp, chan_status := by simp [hm], sx_sysex := by simp [hm], sx_other := by simp },
      wf3 c _ _ _ _ (by omega) (by omega) (by simp)⟩

theorem sx_frame_wf (c : Cfg) (s : St) (h : Inv c s) (hm : s.mode = .sysex) :
    ∀ f ∈ (if c.sysex ∧ s.sx ≠ [] ∧ s.sx.length < c.bufSize then [(s.sx ++ [0xF7], s.sxTs)] else []), WfFrame c f := by
  intro f hf
  split at hf
  · next hcond =>
    simp at hf
    subst hf
    obtain ⟨hc, hne, hlen⟩ := hcond
    rcases h.sx_sysex hm with he | ⟨d, hd, hdd, _⟩
    · exact absurd he hne
    · refine Or.inr (Or.inr ⟨hc, d, by simp [hd], hdd, ?_⟩)
      simp only [List.length_append, List.length_cons, List.length_nil]
      omega
  · simp at hf

theorem step_inv (c : Cfg) (s : St) (b : Nat) (h : Inv c s) :
    Inv c (step c s b).1 ∧ ∀ f ∈ (step c s b).2, WfFrame c f := by
  rcases byte_cases s b with hrt | ⟨rfl, hm⟩ | ⟨hst, hb, h7⟩ | ⟨hd, hm | hm | hm | hm | hm⟩
  · rw [step_rt c s b hrt]
    refine ⟨h, fun f hf => ?_⟩
    rw [List.mem_singleton.mp hf]
    exact Or.inl ⟨b, rfl, hrt⟩
  · rw [step_sysex_end c s hm]
    have hp := pend_none_of c s h (by simp [hm]) (by simp [hm])
    exact ⟨hp ▸ reset_inv c s h, sx_frame_wf c s h hm⟩
  · rw [step_status c s b hst hb h7, idle_eq c s h]
    exact cleanState_status_inv c _ b (reset_inv c s h) rfl rfl rfl hst hb
  · rw [step_clean_data c s b hm hd]
    split
    · next hs => exact withinChan_inv c _ b (running_inv c s h hm hs) rfl hd
    · exact ⟨h, wf_nil c⟩
  · rw [step_chan_data c s b hm hd]
    exact withinChan_inv c s b h hm hd
  · rw [step_sysc_data c s b hm hd]
    exact syscStep_inv c s b h hm hd
  · rw [step_sysex_data c s b hm hd]
    exact ⟨sx_append_inv c s b h hm hd, wf_nil c⟩
  · rw [step_unknown_data c s b hm hd]
    exact ⟨h, wf_nil c⟩

theorem stepTok_inv (c : Cfg) (s : St) (t : Tok) (h : Inv c s) :
    Inv c (stepTok c s t).1 ∧ ∀ f ∈ (stepTok c s t).2, WfFrame c f := by
  cases t with
  | byte b => exact step_inv c s b h
  | tick d => exact ⟨{ h with }, wf_nil c⟩

theorem feed_inv (c : Cfg) (toks : List Tok) (s : St) (h : Inv c s) :
    Inv c (feed c s toks).1 ∧ ∀ f ∈ (feed c s toks).2, WfFrame c f := by
  induction toks generalizing s with
  | nil => exact ⟨h, wf_nil c⟩
  | cons t ts ih =>
    have h1 := stepTok_inv c s t h
    have h2 := ih _ h1.1
    simp only [feed]
    refine ⟨h2.1, ?_⟩
    intro f hf
    rcases List.mem_append.mp hf with hf | hf
    · exact h1.2 f hf
    · exact h2.2 f hf

/-- a message as delivered to the listener of `midi.ListenTo`: status byte first, then exactly the data bytes
    its kind requires, all `< 0x80`; a sysex is `F0 data… F7` and fits the configured buffer -/
def WellFormedMsg (c : Cfg) (m : Bytes) : Prop :=
  (∃ st d1 d2, m = [st, d1, d2] ∧ ((0x80 ≤ st ∧ st ≤ 0xBF) ∨ (0xE0 ≤ st ∧ st ≤ 0xEF)) ∧ d1 < 0x80 ∧ d2 < 0x80) ∨
  (∃ st d, m = [st, d] ∧ 0xC0 ≤ st ∧ st ≤ 0xDF ∧ d < 0x80) ∨
  (∃ d, m = [0xF1, d] ∧ d < 0x80) ∨
  (∃ d1 d2, m = [0xF2, d1, d2] ∧ d1 < 0x80 ∧ d2 < 0x80) ∨
  (∃ d, m = [0xF3, d] ∧ d < 0x80) ∨
  m = [0xF6] ∨
  (∃ b, m = [b] ∧ 0xF8 ≤ b) ∨
  (∃ d, m = 0xF0 :: (d ++ [0xF7]) ∧ (∀ x ∈ d, x < 0x80) ∧ m.length ≤ c.bufSize)

theorem WellFormedMsg.cons {c : Cfg} {m : Bytes} (h : WellFormedMsg c m) :
    ∃ st rest, m = st :: rest ∧ 0x80 ≤ st ∧ ∀ d ∈ rest, d < 0x80 ∨ (st = 0xF0 ∧ d = 0xF7) := by
  rcases h with ⟨st, d1, d2, rfl, hs, h1, h2⟩ | ⟨st, d, rfl, hs1, hs2, h1⟩ | ⟨d, rfl, h1⟩ | ⟨d1, d2, rfl, h1, h2⟩ |
      ⟨d, rfl, h1⟩ | rfl | ⟨b, rfl, hb⟩ | ⟨d, rfl, hd, _⟩
  · exact ⟨st, _, rfl, by omega, by simp [h1, h2]⟩
  · exact ⟨st, _, rfl, by omega, by simp [h1]⟩
  · exact ⟨_, _, rfl, by omega, by simp [h1]⟩
  · exact ⟨_, _, rfl, by omega, by simp [h1, h2]⟩
  · exact ⟨_, _, rfl, by omega, by simp [h1]⟩
  · exact ⟨_, _, rfl, by omega, by simp⟩
  · exact ⟨b, _, rfl, by omega, by simp⟩
  · refine ⟨_, _, rfl, by omega, fun x hx => ?_⟩
    simp only [List.mem_append, List.mem_cons, List.not_mem_nil, or_false] at hx
    rcases hx with hx | rfl
    · exact Or.inl (hd x hx)
    · exact Or.inr ⟨rfl, rfl⟩

/-- `retype` on a well-formed frame: the lone-F7 frame is swallowed (listener not called); every other frame
    becomes a well-formed message with the same first byte; never the panic outcome `some none` -/
theorem retype_wf (c : Cfg) (f : Frame) (h : WfFrame c f) :
    (f.1.head? = some 0xF7 ∧ retype f.1 = none) ∨
    (f.1.head? ≠ some 0xF7 ∧ ∃ m, retype f.1 = some (some m) ∧ WellFormedMsg c m ∧ m.head? = f.1.head?) := by
  rcases h with ⟨b, hf, hb⟩ | ⟨st, d1, d2, hf, h1, h2, hst⟩ | ⟨_, d, hf, hd, hl⟩
  · refine Or.inr ⟨by rw [hf]; simp; omega, [b], by rw [hf]; exact retype_rt b [] hb, ?_, by rw [hf]⟩
    exact Or.inr (Or.inr (Or.inr (Or.inr (Or.inr (Or.inr (Or.inl ⟨b, rfl, hb⟩))))))
  · rcases hst with ⟨hlo, hhi⟩ | rfl | rfl | rfl | rfl | rfl
    · refine Or.inr ⟨by rw [hf]; simp; omega, _, by rw [hf]; exact retype_chan st d1 d2 [] hlo hhi h1 h2, ?_, ?_⟩
      · split
        · next hc => exact Or.inr (Or.inl ⟨st, d1, rfl, hc.1, hc.2, h1⟩)
        · next hc => exact Or.inl ⟨st, d1, d2, rfl, by omega, h1, h2⟩
      · rw [hf]; split <;> rfl
    · exact Or.inr ⟨by rw [hf]; simp, _, by rw [hf]; exact retype_F1 d1 _ h1,
        Or.inr (Or.inr (Or.inl ⟨d1, rfl, h1⟩)), by rw [hf]; rfl⟩
    · exact Or.inr ⟨by rw [hf]; simp, _, by rw [hf]; exact retype_F2 d1 d2 _ h1 h2,
        Or.inr (Or.inr (Or.inr (Or.inl ⟨d1, d2, rfl, h1, h2⟩))), by rw [hf]⟩
    · exact Or.inr ⟨by rw [hf]; simp, _, by rw [hf]; exact retype_F3 d1 _ h1,
        Or.inr (Or.inr (Or.inr (Or.inr (Or.inl ⟨d1, rfl, h1⟩)))), by rw [hf]; rfl⟩
    · exact Or.inr ⟨by rw [hf]; simp, _, by rw [hf]; exact retype_F6 _,
        Or.inr (Or.inr (Or.inr (Or.inr (Or.inr (Or.inl rfl))))), by rw [hf]; rfl⟩
    · exact Or.inl ⟨by rw [hf]; rfl, by rw [hf]; exact retype_F7 _⟩
  · refine Or.inr ⟨by rw [hf]; simp, _, by rw [hf]; exact retype_sysex _, ?_, by rw [hf]⟩
    exact Or.inr (Or.inr (Or.inr (Or.inr (Or.inr (Or.inr (Or.inr ⟨d, rfl, hd, by rw [hf] at hl; exact hl⟩))))))

theorem retype_wf_some {c : Cfg} {f : Frame} (hw : WfFrame c f) {m : Option Bytes} (hr : retype f.1 = some m) :
    f.1.head? ≠ some 0xF7 ∧ ∃ bs, m = some bs ∧ WellFormedMsg c bs ∧ bs.head? = f.1.head? := by
  rcases retype_wf c f hw with ⟨_, hn⟩ | ⟨h7, bs, hbs, hwm, hh⟩
  · rw [hn] at hr
    cases hr
  · rw [hbs] at hr
    exact ⟨h7, bs, (Option.some.inj hr).symm, hwm, hh⟩

theorem listenFrames_wf (c : Cfg) (frames : List Frame) (h : ∀ f ∈ frames, WfFrame c f) :
    ∀ m ∈ listenFrames c frames, ∃ bs, m.1 = some bs ∧ WellFormedMsg c bs := by
  intro m hm
  obtain ⟨f, hf, _, hr, _⟩ := (mem_listenFrames c frames m).mp hm
  obtain ⟨_, bs, hbs, hw, _⟩ := retype_wf_some (h f hf) hr
  exact ⟨bs, hbs, hw⟩

theorem feed_single_mem (c : Cfg) (toks : List Tok) (s : St) :
    ∀ f ∈ (feed c s toks).2, ∀ r, f.1 = [r] → Tok.byte r ∈ toks := by
  induction toks generalizing s with
  | nil => intro f hf; simp [feed] at hf
  | cons t ts ih =>
    intro f hf r hr
    simp only [feed] at hf
    rcases List.mem_append.mp hf with h | h
    · cases t with
      | tick d => simp [stepTok] at h
      | byte b =>
        simp only [stepTok] at h
        by_cases hrt : 0xF8 ≤ b
        · rw [step_rt c s b hrt] at h
          simp at h; subst h
          simp only [List.cons.injEq, and_true] at hr; subst hr
          simp
        · have := step_len c s b (by omega) f h
          rw [hr] at this; simp at this
    · exact List.mem_cons_of_mem _ (ih _ f h r hr)

theorem listen_bytes (c : Cfg) (toks : List Tok) (s : St) (hi : Inv c s) (hb : ∀ b, Tok.byte b ∈ toks → b < 256) :
    ∀ m ∈ listenFrames c (feed c s toks).2, ∀ bs, m.1 = some bs → ∀ x ∈ bs, x < 256 := by
  intro m hm bs hbs x hx
  obtain ⟨f, hf, _, hr, _⟩ := (mem_listenFrames c _ m).mp hm
  have hw := (feed_inv c toks s hi).2 f hf
  obtain ⟨_, bs', hbs', hwm, hh⟩ := retype_wf_some hw hr
  obtain rfl : bs = bs' := Option.some.inj (hbs.symm.trans hbs')
  obtain ⟨st, rest, rfl, _, hrest⟩ := hwm.cons
  rcases List.mem_cons.mp hx with rfl | hx
  · -- the status byte is the first byte of the frame; above `F7` the frame is a real-time byte of the input
    obtain ⟨b, r, e, hbr⟩ := hw.cons
    rw [e] at hh
    obtain rfl : x = b := Option.some.inj hh
    rcases hbr with h | rfl
    · omega
    · exact hb x (feed_single_mem c toks s f hf x e)
  · rcases hrest x hx with h | ⟨_, rfl⟩ <;> omega

end Midi.Live
