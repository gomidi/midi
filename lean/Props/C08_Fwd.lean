import MidiModel.Basic
import MidiModel.Generated.SmfMetaGo
/-!
# C08, tie to the source: the channel-voice and sysex accessors of `smf.Message` (`smf/message.go`) as translated are
exactly those of `midi.Message` (tied to the model in `Props/C07_Get.lean`): same result, same out variables, same panics,
for every byte string and every nil pattern.
-/
open Midi Midi.Go
namespace Midi.C08

/-- A forwarder calls the `midi.Message` accessor and returns its results component by component,
    `(r.1, r.2.1, r.2.2.1, r.2.2.2)`: by eta for pairs that is `(r.1, r.2)`, whatever the arity. -/
theorem fwd {α β : Type} (x : Except String (α × β)) :
    (x >>= fun r => (pure (r.1, r.2) : Except String (α × β))) = x := by
  cases x with
  | error e => rfl
  | ok r => rfl

theorem code_smf_GetNoteOn (m : Bytes) (a b c : Bool) (x y z : Nat) :
    smf.Message.GetNoteOn m a x b y c z = midi.Message.GetNoteOn m a x b y c z := fwd _

theorem code_smf_GetNoteStart (m : Bytes) (a b c : Bool) (x y z : Nat) :
    smf.Message.GetNoteStart m a x b y c z = midi.Message.GetNoteStart m a x b y c z := fwd _

theorem code_smf_GetNoteOff (m : Bytes) (a b c : Bool) (x y z : Nat) :
    smf.Message.GetNoteOff m a x b y c z = midi.Message.GetNoteOff m a x b y c z := fwd _

theorem code_smf_GetPolyAfterTouch (m : Bytes) (a b c : Bool) (x y z : Nat) :
    smf.Message.GetPolyAfterTouch m a x b y c z = midi.Message.GetPolyAfterTouch m a x b y c z := fwd _

theorem code_smf_GetControlChange (m : Bytes) (a b c : Bool) (x y z : Nat) :
    smf.Message.GetControlChange m a x b y c z = midi.Message.GetControlChange m a x b y c z := fwd _

theorem code_smf_GetAfterTouch (m : Bytes) (a b : Bool) (x y : Nat) :
    smf.Message.GetAfterTouch m a x b y = midi.Message.GetAfterTouch m a x b y := fwd _

theorem code_smf_GetProgramChange (m : Bytes) (a b : Bool) (x y : Nat) :
    smf.Message.GetProgramChange m a x b y = midi.Message.GetProgramChange m a x b y := fwd _

theorem code_smf_GetNoteEnd (m : Bytes) (a b : Bool) (x y : Nat) :
    smf.Message.GetNoteEnd m a x b y = midi.Message.GetNoteEnd m a x b y := fwd _

theorem code_smf_GetChannel (m : Bytes) (a : Bool) (x : Nat) :
    smf.Message.GetChannel m a x = midi.Message.GetChannel m a x := fwd _

theorem code_smf_GetSysEx (m : Bytes) (a : Bool) (x : Bytes) :
    smf.Message.GetSysEx m a x = midi.Message.GetSysEx m a x := fwd _

theorem code_smf_GetPitchBend (m : Bytes) (a b c : Bool) (x : Nat) (y : Int) (z : Nat) :
    smf.Message.GetPitchBend m a x b y c z = midi.Message.GetPitchBend m a x b y c z := fwd _

end Midi.C08
