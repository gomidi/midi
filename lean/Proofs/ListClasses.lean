/-!
# Classes of a list under a key or a predicate

Facts that know nothing about MIDI: stability of `List.mergeSort` as "a class that was in order is left untouched", two lists
sorted by a key are equal when their classes are, the classes of a key laid end to end are a permutation of the list; and
a few small facts about `dropLast`, `zip` and `flatMap` that core does not have.
-/
namespace List

theorem filter_mergeSort {α : Type} {le : α → α → Bool}
    (trans : ∀ a b c, le a b → le b c → le a c) (total : ∀ a b, le a b || le b a)
    (p : α → Bool) {l : List α} (h : (l.filter p).Pairwise (fun a b => le a b)) :
    (l.mergeSort le).filter p = l.filter p := by
  -- the class is a sorted sublist of `l`, hence a sublist of the result, hence of the result's class …
  have hsub := (sublist_mergeSort trans total h filter_sublist).filter p
  simp only [filter_filter, Bool.and_self] at hsub
  -- … which is no longer, the result being a permutation of `l`
  exact (hsub.eq_of_length ((mergeSort_perm l le).filter p).length_eq.symm).symm

theorem Pairwise.of_filter_key {α κ : Type} [DecidableEq κ] (key : α → κ) {R : α → α → Prop} {l : List α}
    (h : ∀ k, (l.filter (fun a => key a == k)).Pairwise R) :
    l.Pairwise (fun a b => key a = key b → R a b) := by
  rw [pairwise_iff_forall_sublist]
  intro a b hab hk
  have hsub := hab.filter (fun x => key x == key a)
  have hboth : [a, b].filter (fun x => key x == key a) = [a, b] := by simp [hk]
  rw [hboth] at hsub
  exact pairwise_iff_forall_sublist.1 (h (key a)) hsub

theorem eq_of_filter_key_eq {α : Type} (key : α → Int) : ∀ (l1 l2 : List α),
    l1.Pairwise (fun a b => key a ≤ key b) → l2.Pairwise (fun a b => key a ≤ key b) →
    (∀ k : Int, l1.filter (fun a => key a == k) = l2.filter (fun a => key a == k)) → l1 = l2
  | [], [], _, _, _ => rfl
  | [], b :: r2, _, _, h => by
    have := h (key b); simp at this
  | a :: r1, [], _, _, h => by
    have := h (key a); simp at this
  | a :: r1, b :: r2, h1, h2, h => by
    -- the head of a sorted list has the least key, and each head occurs in the other list: the two keys are equal
    have least : ∀ {x y : α} {r s : List α}, (y :: s).Pairwise (fun a b => key a ≤ key b) →
        (x :: r).filter (fun a => key a == key x) = (y :: s).filter (fun a => key a == key x) → key y ≤ key x := by
      intro x y r s hs hx
      have hm : x ∈ (y :: s).filter (fun a => key a == key x) := hx ▸ mem_filter.2 ⟨mem_cons_self, by simp⟩
      rcases mem_cons.1 (mem_filter.1 hm).1 with rfl | hm
      · exact Int.le_refl _
      · exact (pairwise_cons.1 hs).1 x hm
    have hab : key a = key b := Int.le_antisymm (least h1 (h (key b)).symm) (least h2 (h (key a)))
    -- so both are the first element of their common class
    have hk := h (key a)
    simp only [filter_cons, hab, beq_self_eq_true, if_true, cons.injEq] at hk
    obtain rfl := hk.1
    congr 1
    refine eq_of_filter_key_eq key r1 r2 (pairwise_cons.1 h1).2 (pairwise_cons.1 h2).2 fun k => ?_
    have := h k
    simp only [filter_cons] at this
    split at this
    · exact (cons.inj this).2
    · exact this

theorem Sublist.dropLast {α : Type} {l₁ l₂ : List α} (h : l₁ <+ l₂) : l₁.dropLast <+ l₂.dropLast := by
  rw [← reverse_sublist, ← tail_reverse, ← tail_reverse]
  exact h.reverse.tail

/-- two lists of different element types compared through a common projection (two event types, through their messages) -/
theorem exists_mem_dropLast_of_map_eq {α β γ : Type} {f : α → γ} {g : β → γ} {a : List α} {b : List β}
    (h : a.map f = b.map g) {x : α} (hx : x ∈ a.dropLast) : ∃ y ∈ b.dropLast, g y = f x := by
  have hm : f x ∈ (a.map f).dropLast := by
    rw [← map_dropLast]
    exact mem_map_of_mem hx
  rw [h, ← map_dropLast] at hm
  exact mem_map.1 hm

theorem filter_or_perm {α : Type} (p q : α → Bool) (l : List α) (h : ∀ x ∈ l, p x = true → q x = false) :
    (l.filter (fun x => p x || q x)).Perm (l.filter p ++ l.filter q) := by
  induction l with
  | nil => exact .refl _
  | cons x r ih =>
    have ih := ih fun y hy => h y (mem_cons_of_mem _ hy)
    cases hp : p x with
    | true => simpa [filter_cons, hp, h x mem_cons_self hp] using ih
    | false =>
      cases hq : q x with
      | true => simpa [filter_cons, hp, hq] using (ih.cons x).trans perm_middle.symm
      | false => simpa [filter_cons, hp, hq] using ih

theorem partition_perm {α κ : Type} [BEq κ] [LawfulBEq κ] (k : α → κ) (cs : List κ) (hnd : cs.Nodup) (l : List α) :
    (l.filter (fun x => k x ∈ cs)).Perm (cs.flatMap fun c => l.filter (fun x => k x == c)) := by
  induction cs with
  | nil => simp
  | cons c cs ih =>
    have hc : c ∉ cs := (nodup_cons.1 hnd).1
    -- class `c` apart, the rest by induction; `c ∉ cs` is what makes the two conditions exclusive
    have h1 := filter_or_perm (fun x => k x == c) (fun x => decide (k x ∈ cs)) l
      (fun x _ hx => by simp only [beq_iff_eq] at hx; simp [hx, hc])
    have e : (fun x => decide (k x ∈ c :: cs)) = fun x => (k x == c) || decide (k x ∈ cs) := by
      funext x
      simp
    rw [e, flatMap_cons]
    exact h1.trans (Perm.append_left _ (ih (nodup_cons.1 hnd).2))

theorem snd_of_mem_zip_map {α β : Type} {f : α → β} {l : List α} {p : α × β} (h : p ∈ l.zip (l.map f)) :
    p.2 = f p.1 := by
  induction l with
  | nil => cases h
  | cons a r ih =>
    rcases mem_cons.1 h with rfl | h
    · rfl
    · exact ih h

theorem flatMap_perm {α β : Type} (f g : α → List β) : ∀ (l : List α), (∀ a ∈ l, (f a).Perm (g a)) →
    (l.flatMap f).Perm (l.flatMap g)
  | [], _ => by simp
  | a :: r, h => by
    simp only [flatMap_cons]
    exact (h a (by simp)).append (flatMap_perm f g r (fun x hx => h x (by simp [hx])))

end List
