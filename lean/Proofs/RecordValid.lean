import Proofs.RecordListen
import Proofs.StrictFile
import Proofs.Vlq
/-!
# The recorded track lies in the domain of the SMF theorems

A recorded track (tempo meta event, then well-formed channel messages) is a valid open track body in the
sense of `Proofs/SmfFile.lean` (C01) and, with deltas below 2^28, of `Proofs/StrictFile.lean` (C03); the
bytes of its chunk stay below the 32-bit chunk length field when fewer than 2^27 events were recorded. Together:
the file made of it lies in `C03.StrictDom` (`record_strictDom`).
-/
namespace Midi.Record
open Midi.Smf Midi.Strict Midi.Vlq

theorem fileOf_eq (res : Nat) (t : Track) (h : t.isClosed = false) :
    fileOf res t = ⟨0, .metric res, [t ++ [⟨0, EOT⟩]]⟩ := by
  simp [fileOf, File.addTrack, close_open t 0 h]

/-- `WriteTo` leaves such a file as it is -/
theorem closed_prepared (res : Nat) (t : Track) :
    (⟨0, .metric res, [t ++ [⟨0, EOT⟩]]⟩ : File).prepared = ⟨0, .metric res, [t ++ [⟨0, EOT⟩]]⟩ := by
  simp [File.prepared, Track.close, isClosed_snoc_EOT]

theorem tempo_ne_EOT {ty : Nat} {d : Bytes} (hty : ty < 256) (hne : ty ≠ 0x2F) (hd : d.length < 4294967296) :
    (Ev.metaEv ty d).toBytes ≠ EOT := by
  intro h0
  have := toBytes_ne_EOT (.metaEv ty d) hne ⟨hty, hd⟩
  rw [h0] at this
  simp at this

theorem exists_body (P : Nat × Ev → Prop) (t : Track) (h : ∀ e ∈ t, ∃ x, P x ∧ e = evOf x) :
    ∃ body : ATrack, (∀ x ∈ body, P x) ∧ t = body.map evOf := by
  induction t with
  | nil => exact ⟨[], by simp, rfl⟩
  | cons e t ih =>
    obtain ⟨x, hx, rfl⟩ := h e (by simp)
    obtain ⟨body, hb, rfl⟩ := ih fun e he => h e (by simp [he])
    exact ⟨x :: body, List.forall_mem_cons.2 ⟨hx, hb⟩, rfl⟩

theorem record_body (ticksOf : Int → Nat) (ty : Nat) (d : Bytes) (ms : List (Bytes × Int))
    (hty : ty < 256) (hne : ty ≠ 0x2F) (hd : d.length < 268435456)
    (hwf : ∀ m ∈ ms, isChannelMsg m.1 = true → ChanWF m.1)
    (hδ : ∀ e ∈ record ticksOf (Ev.metaEv ty d).toBytes ms, e.delta < 268435456) :
    ∃ body : ATrack, BodyOK body ∧ SBodyOK body ∧
      record ticksOf (Ev.metaEv ty d).toBytes ms = body.map evOf := by
  have hv : (Ev.metaEv ty d).Valid := ⟨hty, by omega⟩
  have hn : (Ev.metaEv ty d).notEOT := hne
  obtain ⟨hrec, _⟩ := record_eq ticksOf _ ms (tempo_ne_EOT (d := d) hty hne (by omega))
  have hall : ∀ e ∈ record ticksOf (Ev.metaEv ty d).toBytes ms, ∃ x : Nat × Ev,
      ((x.2.Valid ∧ x.2.notEOT ∧ x.1 < 4294967296) ∧ x.1 < 268435456 ∧ payloadLen x.2 < 268435456) ∧ e = evOf x := by
    intro e he
    have hδe := hδ e he
    rw [hrec] at he
    rcases List.mem_cons.1 he with rfl | he
    · exact ⟨(0, .metaEv ty d), ⟨⟨hv, hn, by omega⟩, by omega, hd⟩, rfl⟩
    · obtain ⟨m, hm, hc, em⟩ := recEvents_mem ticksOf ms 0 e he
      obtain ⟨st, d1, d2, hvc, eb⟩ := hwf m hm hc
      exact ⟨(e.delta, .chan st d1 d2), ⟨⟨hvc, trivial, by omega⟩, hδe, by simp [payloadLen]⟩, by rw [evOf, ← eb, ← em]⟩
  obtain ⟨body, hb, e⟩ := exists_body _ _ hall
  exact ⟨body, fun x hx => (hb x hx).1, fun x hx => (hb x hx).2, e⟩

theorem encMsg_len (rsOn : Bool) (rs : Nat) (raw : Msg) (b : Bytes) (rs' : Nat)
    (h : encMsg rsOn rs raw = some (b, rs')) : b.length ≤ raw.length + 6 := by
  cases raw with
  | nil => simp [encMsg] at h
  | cons b0 tl =>
    simp only [encMsg] at h
    split at h
    · simp only [Option.some.injEq, Prod.mk.injEq] at h
      have := encode_length_le (tl.length % 4294967296)
      rw [← h.1]; simp; omega
    · split at h
      · split at h
        · simp only [Option.some.injEq, Prod.mk.injEq] at h; rw [← h.1]; simp
        · split at h
          · simp only [Option.some.injEq, Prod.mk.injEq] at h; rw [← h.1]; simp
          · simp only [Option.some.injEq, Prod.mk.injEq] at h; rw [← h.1]; simp; omega
      · simp only [Option.some.injEq, Prod.mk.injEq] at h; rw [← h.1]; simp

theorem encTrackBody_len (rsOn : Bool) (t : Track) :
    ∀ rs b, encTrackBody rsOn rs t = some b → b.length ≤ (t.map fun e => e.msg.length + 12).sum := by
  induction t with
  | nil => intro rs b h; simp [encTrackBody] at h; simp [h]
  | cons e r ih =>
    intro rs b h
    simp only [encTrackBody] at h
    split at h
    · cases h
    · rename_i bm rs' hm
      split at h
      · cases h
      · rename_i rest hr
        simp only [Option.some.injEq] at h
        have h1 := encMsg_len rsOn rs e.msg bm rs' hm
        have h2 := ih rs' rest hr
        have h3 := encode_length_le (e.delta % 4294967296)
        rw [← h]
        simp only [List.length_append, List.map_cons, List.sum_cons]
        omega

theorem sum_le_mul (l : List Event) (k : Nat) (h : ∀ e ∈ l, e.msg.length + 12 ≤ k) :
    (l.map fun e => e.msg.length + 12).sum ≤ k * l.length := by
  induction l with
  | nil => simp
  | cons e r ih =>
    have h1 := h e (by simp)
    have h2 := ih (fun x hx => h x (by simp [hx]))
    simp only [List.map_cons, List.sum_cons, List.length_cons]
    rw [Nat.mul_succ]; omega

theorem chanWF_len (m : Bytes) (h : ChanWF m) : m.length ≤ 3 := by
  obtain ⟨st, d1, d2, _, rfl⟩ := h
  cases d2 <;> simp [Ev.toBytes]

theorem record_chunk_size (rsOn : Bool) (ticksOf : Int → Nat) (ty : Nat) (d : Bytes) (ms : List (Bytes × Int))
    (hne : (Ev.metaEv ty d).toBytes ≠ EOT) (hd : d.length < 268435456)
    (hwf : ∀ m ∈ ms, isChannelMsg m.1 = true → ChanWF m.1)
    (hn : (record ticksOf (Ev.metaEv ty d).toBytes ms).length < 134217728) (b : Bytes)
    (h : encTrackBody rsOn 0 (record ticksOf (Ev.metaEv ty d).toBytes ms ++ [⟨0, EOT⟩]) = some b) :
    b.length < 4294967296 := by
  have hlen := encTrackBody_len rsOn _ 0 b h
  obtain ⟨hrec, _⟩ := record_eq ticksOf _ ms hne
  rw [hrec] at hlen hn
  have hs := sum_le_mul (recEvents ticksOf 0 ms) 15 (by
    intro e he
    obtain ⟨m, hm, hc, em⟩ := recEvents_mem ticksOf ms 0 e he
    have := chanWF_len m.1 (hwf m hm hc)
    rw [em]; omega)
  have ht : (Ev.metaEv ty d).toBytes.length ≤ d.length + 8 := by
    have := encode_length_le d.length
    simp [Ev.toBytes]; omega
  simp only [List.cons_append, List.map_cons, List.sum_cons, List.map_append, List.sum_append, List.map_nil,
    List.sum_nil, List.length_cons, EOT] at hlen hn
  simp only [List.length_nil] at hlen
  omega

/-- the file made of the recording lies in the strict domain (hence in `Dom`: `StrictDom.dom`), and `WriteTo` leaves it as
    it is -/
theorem record_strictDom (rsOn : Bool) (ticksOf : Int → Nat) (ty : Nat) (d : Bytes) (res : Nat) (ms : List (Bytes × Int))
    (hty : ty < 256) (hne : ty ≠ 0x2F) (hd : d.length < 268435456) (hres : 1 ≤ res ∧ res ≤ 32767)
    (hwf : ∀ m ∈ ms, isChannelMsg m.1 = true → ChanWF m.1)
    (hδ : ∀ e ∈ record ticksOf (Ev.metaEv ty d).toBytes ms, e.delta < 268435456)
    (hn : (record ticksOf (Ev.metaEv ty d).toBytes ms).length < 134217728) :
    C03.StrictDom rsOn (fileOf res (record ticksOf (Ev.metaEv ty d).toBytes ms)) ∧
    (fileOf res (record ticksOf (Ev.metaEv ty d).toBytes ms)).prepared =
      ⟨0, .metric res, [record ticksOf (Ev.metaEv ty d).toBytes ms ++ [⟨0, EOT⟩]]⟩ := by
  have hT := tempo_ne_EOT (d := d) hty hne (by omega)
  obtain ⟨body, hb, hsb, hbody⟩ := record_body ticksOf ty d ms hty hne hd hwf hδ
  rw [fileOf_eq res _ (record_eq ticksOf _ ms hT).2, closed_prepared]
  refine ⟨⟨by simp, hres, by simp, by simp, ?_, ?_⟩, rfl⟩
  · simpa using ⟨body, hb, hsb, Or.inr ⟨0, by omega, by rw [hbody]⟩⟩
  · rw [closed_prepared]
    simpa using record_chunk_size rsOn ticksOf ty d ms hT hd hwf hn

end Midi.Record
