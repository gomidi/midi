import MidiModel.Generated.StateShape
import Proofs.StateShapeExpected
/-!
# C10, tie to the source: the state the code keeps has the shape the model assumes
(the packages this property's models read; the comparison is explained in `Props/C01_State.lean`)
-/
namespace Midi.C10
theorem code_state_shape_smf : Midi.StateShape.smf = Midi.StateShapeExpected.smf := rfl
theorem code_state_shape_internal_utils : Midi.StateShape.internal_utils = Midi.StateShapeExpected.internal_utils := rfl
end Midi.C10
