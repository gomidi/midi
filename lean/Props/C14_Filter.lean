import MidiModel.Live
import MidiModel.Generated.TestdrvGo
import MidiModel.Generated.MidicatdrvGo
import Props.C08_Code
import Proofs.Msg
/-!
# C14, tie to the source: the option filter of the test driver and of the process-backed driver

`Generated/TestdrvGo.lean` carries the translation of the function literal that `(*in).Listen`
(`v2/drivers/testdrv/driver.go`) hands to `drivers.NewReader`: it captures the listen configuration and the listener
`onMsg`; `Generated/MidicatdrvGo.lean` that of its textual copy in `v2/drivers/midicatdrv/in.go`. The theorem, for each: for
every configuration and every frame, the closure calls the listener iff the model's `Live.keep` says so (and never panics).
With `Props/C04_Code` (reader) and `Props/C04_Listen` (re-typing) the three stages of the live input path — decoder, option
filter, re-typing — are each tied to the translated source.
-/
namespace Midi.C14
open Midi Midi.Live Midi.Go Midi.Msg Midi.C08

def toConf (c : Cfg) : drivers.ListenConfig :=
  { TimeCode := c.tc, ActiveSense := c.as, SysEx := c.sysex, SysExBufferSize := c.buf }

theorem typeOfStatus_big (b : Nat) (h : 256 ≤ b) : typeOfStatus b = 0 := Msg.typeOfStatus_big b h

theorem is_cons (b : Nat) (r : Bytes) (c : Int) : midi.Message.Is (b :: r) c = .ok (typeIs (typeOfStatus b) c) :=
  code_Is_cons b r c

theorem is_class (m : Bytes) :
    midi.Message.Is m 6 = .ok (decide (m.head? = some 254)) ∧
    midi.Message.Is m 2 = .ok (decide (m.head? = some 248)) ∧
    midi.Message.Is m (-4) = .ok (decide (m.head? = some 240 ∨ m.head? = some 247)) := by
  cases m with
  | nil => simp only [code_Is_nil]; exact ⟨rfl, rfl, rfl⟩
  | cons b r =>
    obtain ⟨_, k1, k2, k3⟩ := typeIs_class b
    simp only [code_Is_cons, k1, k2, k3, List.head?_cons, Option.some.injEq, and_self]

theorem keep_eq (c : Cfg) (m : Bytes) (ms : Int) :
    keep c (m, ms) = !((decide (m.head? = some 254) && !c.as) || (decide (m.head? = some 248) && !c.tc) ||
      (decide (m.head? = some 240 ∨ m.head? = some 247) && !c.sysex)) := by
  cases m with
  | nil => rfl
  | cons b r => simp [keep]

/-- The text that both drivers carry, whatever the closure around it returns: three tests, each of which ends the call
    with `skip` (the environment as it was), else `call` (the listener called). Both translated closures are this
    term; they differ in the type of their environment only. -/
theorem filter_shape {E : Type} (c : Cfg) (m : Bytes) (ms : Int) (skip call : E) :
    (do
      if ((← midi.Message.Is m (6 : Int)) = true ∧ ¬((toConf c).ActiveSense = true)) then
        return skip
      if ((← midi.Message.Is m (2 : Int)) = true ∧ ¬((toConf c).TimeCode = true)) then
        return skip
      if ((← midi.Message.Is m (-4 : Int)) = true ∧ ¬((toConf c).SysEx = true)) then
        return skip
      return call : Except String E) = .ok (if keep c (m, ms) then call else skip) := by
  obtain ⟨k1, k2, k3⟩ := is_class m
  obtain ⟨sx, buf, as, tc⟩ := c
  rw [keep_eq, k1, k2, k3]
  simp only [toConf]
  -- three tests of the first byte and three options: the truth table
  generalize decide (m.head? = some 254) = a
  generalize decide (m.head? = some 248) = b
  generalize decide (m.head? = some 240 ∨ m.head? = some 247) = d
  cases a <;> cases b <;> cases d <;> cases as <;> cases tc <;> cases sx <;> rfl

/-- The translated filter closure calls the listener iff the model keeps the frame, for every configuration. -/
theorem code_filter_is_keep (c : Cfg) (tr : List testdrv.in'.Listen.arg_NewReader.Ev) (m : Bytes) (ms : Int) :
    testdrv.in'.Listen.arg_NewReader { conf := toConf c, trace := tr } m ms =
      .ok { conf := toConf c, trace := if keep c (m, ms) then tr ++ [.onMsg m ms] else tr } := by
  rw [apply_ite (fun t => ({ conf := toConf c, trace := t } : testdrv.in'.Listen.arg_NewReader.Env))]
  exact filter_shape c m ms _ _

/-- the process-backed driver carries a textual copy of the filter (`v2/drivers/midicatdrv/in.go`, the function literal
    stored in `listener`): the same theorem for its translation -/
theorem code_midicatdrv_filter_is_keep (c : Cfg) (tr : List midicatdrv.in'.Listen.listener.Ev) (m : Bytes) (ms : Int) :
    midicatdrv.in'.Listen.listener { conf := toConf c, trace := tr } m ms =
      .ok { conf := toConf c, trace := if keep c (m, ms) then tr ++ [.onMsg m ms] else tr } := by
  rw [apply_ite (fun t => ({ conf := toConf c, trace := t } : midicatdrv.in'.Listen.listener.Env))]
  exact filter_shape c m ms _ _

end Midi.C14
