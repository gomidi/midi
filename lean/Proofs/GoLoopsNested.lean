import MidiModel.GoSem
/-!
# Translated general `for` loops (`tools/go2lean`: `for _ in [0:Go.loopFuel] do …`)

Every such loop is `loopF`: `fuel` rounds of a body that says `done` or `yield`. When the body is itself a program —
further loops, conditions that throw, as in `utils.VlqDecode`, whose loop conditions index the slice — a proof follows the
loop round by round (`loopF_done`, `loopF_yield`) inside an induction on what the loop consumes, with the fuel a variable
that exceeds what is left to consume; the literal fuel is never unrolled. The shape `if ¬cond then break; step` has
lemmas of its own in `Proofs/GoLoops.lean` — another module, because `Go.iter` and `Go.iterM` match on `(fuel, state)` like
`loopF`: behind it they would be compiled with its matcher and stand for other terms than they do.
-/
namespace Go
def loopF {σ : Type} (f : σ → Except String (ForInStep σ)) : Nat → σ → Except String σ
  | 0, s => pure s
  | n + 1, s => f s >>= fun r => match r with
      | .done b => pure b
      | .yield b => loopF f n b

theorem forIn_list_loopF {σ : Type} (f : σ → Except String (ForInStep σ)) :
    ∀ (l : List Nat) (s : σ), forIn l s (fun _ => f) = loopF f l.length s := by
  intro l
  induction l with
  | nil => intro s; rfl
  | cons a r ih =>
    intro s
    rw [List.forIn_cons]
    simp only [List.length_cons, loopF]
    congr 1
    funext x
    cases x with
    | done b => rfl
    | yield b => exact ih b

/-- the shape the translator emits, over the range `[0:fuel]` -/
theorem forIn_range_loopF {σ : Type} (f : σ → Except String (ForInStep σ)) (fuel : Nat) (s : σ) :
    forIn [:fuel] s (fun _ => f) = loopF f fuel s := by
  rw [Std.Legacy.Range.forIn_eq_forIn_range']
  have := forIn_list_loopF f (List.range' 0 fuel 1) s
  simpa [Std.Legacy.Range.size] using this

theorem loopF_done {σ : Type} {f : σ → Except String (ForInStep σ)} {s b : σ} (n : Nat) (h : f s = pure (.done b)) :
    loopF f (n + 1) s = pure b := by
  unfold loopF
  rw [h]
  rfl

/-- a round that goes on; `x` is the part of the body that may throw -/
theorem loopF_yield {σ α : Type} {f : σ → Except String (ForInStep σ)} {s : σ} (n : Nat) (x : Except String α)
    (g : α → σ) (h : f s = x >>= fun a => pure (.yield (g a))) :
    loopF f (n + 1) s = x >>= fun a => loopF f n (g a) := by
  conv => lhs; unfold loopF
  rw [h, bind_assoc]
  rfl

end Go
