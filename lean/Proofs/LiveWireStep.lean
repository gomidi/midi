import MidiModel.LiveWire
import Proofs.LiveStep
/-!
# Single steps of the live decoder (`MidiModel/Live.lean`) on the byte classes of the wire model

State predicates (`Clean`, `WaitC`, `WaitS`, `InSx`) describe the decoder between the bytes of a
message; every lemma says what one byte (or one gap of real-time bytes and ticks) does to them, and is
read off the equations of `Proofs/LiveStep.lean` (`step_chan_*` and `step_sx_*` here are `Live.step_chan_data`,
`Live.step_sysex_data` and `Live.step_sysex_end` stated on these predicates).
-/
namespace Midi.LiveWire
open Midi.Live

/-- what a tick does to the state (`stepTok_tick`): the clock moves on by `d` -/
def adv (s : St) (d : Int) : St := { s with ts := s.ts + d }

@[simp] theorem adv_mode (s : St) (d : Int) : (adv s d).mode = s.mode := rfl
@[simp] theorem adv_status (s : St) (d : Int) : (adv s d).status = s.status := rfl
@[simp] theorem adv_typ (s : St) (d : Int) : (adv s d).typ = s.typ := rfl
@[simp] theorem adv_pend (s : St) (d : Int) : (adv s d).pend = s.pend := rfl
@[simp] theorem adv_sx (s : St) (d : Int) : (adv s d).sx = s.sx := rfl
@[simp] theorem adv_sxTs (s : St) (d : Int) : (adv s d).sxTs = s.sxTs := rfl
@[simp] theorem adv_ts (s : St) (d : Int) : (adv s d).ts = s.ts + d := rfl
@[simp] theorem adv_panicked (s : St) (d : Int) : (adv s d).panicked = s.panicked := rfl

theorem adv_zero (s : St) : adv s 0 = s := by cases s; simp [adv]
theorem adv_adv (s : St) (a b : Int) : adv (adv s a) b = adv s (a + b) := by
  cases s; simp [adv, Int.add_assoc]

theorem stepTok_tick (c : Cfg) (s : St) (d : Int) : stepTok c s (.tick d) = (adv s d, []) := rfl

theorem feed_gap (c : Cfg) (s : St) (g : Gap) (h : gapOk g = true) :
    feed c s g = (adv s (tickSum g), gapMsgs s.ts g) := by
  induction g generalizing s with
  | nil => simp [feed, tickSum, gapMsgs, adv_zero]
  | cons x g ih =>
    cases x with
    | byte b =>
      simp only [gapOk, Bool.and_eq_true, decide_eq_true_eq] at h
      rw [feed_cons, stepTok, step_rt c s b h.1]
      simp only [ih s h.2, tickSum, gapMsgs, List.singleton_append]
    | tick d =>
      simp only [gapOk] at h
      rw [feed_cons, stepTok_tick]
      simp only [ih (adv s d) h, tickSum, gapMsgs, adv_adv, adv_ts, List.nil_append]

theorem feed_gap_byte (c : Cfg) (s : St) (g : Gap) (b : Nat) (rest : List Tok) (h : gapOk g = true) :
    feed c s (g ++ .byte b :: rest) =
      ((feed c (step c (adv s (tickSum g)) b).1 rest).1,
       gapMsgs s.ts g ++ ((step c (adv s (tickSum g)) b).2 ++ (feed c (step c (adv s (tickSum g)) b).1 rest).2)) := by
  rw [feed_append, feed_gap c s g h, feed_cons]
  rfl

theorem feed_ts (c : Cfg) (toks : List Tok) : ∀ s : St, (feed c s toks).1.ts = s.ts + tickSum toks := by
  induction toks with
  | nil => intro s; simp [feed, tickSum]
  | cons x r ih =>
    intro s
    rw [feed_cons]
    cases x with
    | byte b => simp only [ih, stepTok, step_ts, tickSum]
    | tick d => simp only [ih, stepTok, tickSum, Int.add_assoc]

theorem feed_init_ts (c : Cfg) (toks : List Tok) : (feed c init toks).1.ts = tickSum toks := by
  rw [feed_ts]
  exact Int.zero_add _

/-- between messages: running status `run` (`0` = none), clock `t`. Without a running status the decoder reads neither `typ`
    nor `pend` before a status byte sets them, so they are left free: states that no byte stream reaches (a byte pending in
    clean mode) are `Clean` too. -/
structure Clean (s : St) (run : Nat) (t : Int) : Prop where
  mode : s.mode = .clean
  status : s.status = run
  ts : s.ts = t
  typ : run ≠ 0 → s.typ = run / 16
  pend : run ≠ 0 → s.pend = none

/-- inside a channel message with status `st`: `pend` = the first data byte if it has arrived -/
structure WaitC (s : St) (st : Nat) (pend : Option Nat) (t : Int) : Prop where
  mode : s.mode = .chan
  status : s.status = st
  typ : s.typ = st / 16
  pend : s.pend = pend
  ts : s.ts = t

structure WaitS (s : St) (st : Nat) (pend : Option Nat) (t : Int) : Prop where
  mode : s.mode = .sysc
  status : s.status = 0
  typ : s.typ = st
  pend : s.pend = pend
  ts : s.ts = t

/-- inside a sysex: `data` collected so far, started at clock `t0` -/
structure InSx (s : St) (data : Bytes) (t0 t : Int) : Prop where
  mode : s.mode = .sysex
  status : s.status = 0
  sx : s.sx = 0xF0 :: data
  sxTs : s.sxTs = t0
  ts : s.ts = t

theorem Clean.adv {s : St} {run : Nat} {t : Int} (h : Clean s run t) (d : Int) : Clean (adv s d) run (t + d) :=
  ⟨h.mode, h.status, by simp [h.ts], h.typ, h.pend⟩
theorem WaitC.adv {s : St} {st : Nat} {p : Option Nat} {t : Int} (h : WaitC s st p t) (d : Int) :
    WaitC (adv s d) st p (t + d) := ⟨h.mode, h.status, h.typ, h.pend, by simp [h.ts]⟩
theorem WaitS.adv {s : St} {st : Nat} {p : Option Nat} {t : Int} (h : WaitS s st p t) (d : Int) :
    WaitS (adv s d) st p (t + d) := ⟨h.mode, h.status, h.typ, h.pend, by simp [h.ts]⟩
theorem InSx.adv {s : St} {data : Bytes} {t0 t : Int} (h : InSx s data t0 t) (d : Int) :
    InSx (adv s d) data t0 (t + d) := ⟨h.mode, h.status, h.sx, h.sxTs, by simp [h.ts]⟩

theorem clean_init : Clean init 0 0 := ⟨rfl, rfl, rfl, fun h => absurd rfl h, fun h => absurd rfl h⟩

theorem cleanState_sxStart (s : St) :
    cleanState s 0xF0 = ({ s with status := 0, sx := [0xF0], sxTs := s.ts, mode := .sysex }, []) :=
  Live.cleanState_sxStart s

theorem step_chanStatus (c : Cfg) (s : St) (st : Nat) (h1 : 0x80 ≤ st) (h2 : st ≤ 0xEF) :
    ∃ s', step c s st = (s', []) ∧ WaitC s' st none s.ts := by
  rw [step_status c s st h1 (by omega) (by omega), cleanState_chanStatus _ st h1 h2]
  exact ⟨_, rfl, rfl, rfl, rfl, rfl, rfl⟩

theorem step_syscStatus (c : Cfg) (s : St) (st : Nat) (h : st = 0xF1 ∨ st = 0xF2 ∨ st = 0xF3) :
    ∃ s', step c s st = (s', []) ∧ WaitS s' st none s.ts := by
  rw [step_status c s st (by omega) (by omega) (by omega), cleanState_syscStatus _ st h]
  exact ⟨_, rfl, rfl, rfl, rfl, rfl, rfl⟩

theorem step_tune (c : Cfg) (s : St) :
    ∃ s', step c s 0xF6 = (s', [([0xF6, 0, 0], s.ts)]) ∧ Clean s' 0 s.ts := by
  rw [step_status c s 0xF6 (by omega) (by omega) (by omega), cleanState_tune]
  exact ⟨_, rfl, rfl, rfl, rfl, fun h => absurd rfl h, fun h => absurd rfl h⟩

theorem step_sxStart (c : Cfg) (s : St) :
    ∃ s', step c s 0xF0 = (s', []) ∧ InSx s' [] s.ts s.ts := by
  rw [step_status c s 0xF0 (by omega) (by omega) (by omega), Live.cleanState_sxStart]
  exact ⟨_, rfl, rfl, rfl, rfl, rfl, rfl⟩

theorem chanLen_one {st : Nat} (h : chanLen st = 1) : st / 16 = 0xD ∨ st / 16 = 0xC := by
  unfold chanLen at h
  by_cases hh : st / 16 = 0xC ∨ st / 16 = 0xD
  · omega
  · simp [hh] at h

theorem chanLen_two {st : Nat} (h1 : 0x80 ≤ st) (h2 : st ≤ 0xEF) (h : chanLen st = 2) : TwoData (st / 16) := by
  unfold chanLen at h
  by_cases hh : st / 16 = 0xC ∨ st / 16 = 0xD
  · simp [hh] at h
  · unfold TwoData; omega

theorem step_chan_only (c : Cfg) (s : St) (st d : Nat) (t : Int) (h : WaitC s st none t)
    (hl : chanLen st = 1) (hd : d < 0x80) :
    ∃ s', step c s d = (s', [([st, d, 0], t)]) ∧ Clean s' st t := by
  rw [step_chan_data c s d h.mode hd, withinChan_only s d (by rw [h.typ]; exact chanLen_one hl), h.status, h.ts]
  exact ⟨_, rfl, rfl, rfl, rfl, fun _ => h.typ, fun _ => rfl⟩

theorem step_chan_first (c : Cfg) (s : St) (st d : Nat) (t : Int) (h : WaitC s st none t)
    (h1 : 0x80 ≤ st) (h2 : st ≤ 0xEF) (hl : chanLen st = 2) (hd : d < 0x80) :
    ∃ s', step c s d = (s', []) ∧ WaitC s' st (some d) t := by
  rw [step_chan_data c s d h.mode hd, withinChan_first s d (by rw [h.typ]; exact chanLen_two h1 h2 hl) h.pend]
  exact ⟨_, rfl, h.mode, h.status, h.typ, rfl, h.ts⟩

theorem step_chan_second (c : Cfg) (s : St) (st x d : Nat) (t : Int) (h : WaitC s st (some x) t)
    (h1 : 0x80 ≤ st) (h2 : st ≤ 0xEF) (hl : chanLen st = 2) (hd : d < 0x80) :
    ∃ s', step c s d = (s', [([st, x, d], t)]) ∧ Clean s' st t := by
  rw [step_chan_data c s d h.mode hd, withinChan_second s x d (by rw [h.typ]; exact chanLen_two h1 h2 hl) h.pend,
    h.status, h.ts]
  exact ⟨_, rfl, rfl, rfl, rfl, fun _ => h.typ, fun _ => rfl⟩

theorem clean_running (c : Cfg) (s : St) (st d : Nat) (t : Int) (h : Clean s st t) (hst : st ≠ 0) (hd : d < 0x80) :
    step c s d = step c { s with mode := .chan } d := by
  have hs : s.status ≠ 0 := by rw [h.status]; exact hst
  rw [step_clean_data c s d h.mode hd, if_pos hs, step_chan_data c _ d rfl hd]

theorem step_sysc_only (c : Cfg) (s : St) (st d : Nat) (t : Int) (h : WaitS s st none t)
    (hst : st = 0xF1 ∨ st = 0xF3) (hd : d < 0x80) :
    ∃ s', step c s d = (s', [([st, d, 0], t)]) ∧ Clean s' 0 t := by
  rw [step_sysc_data c s d h.mode hd, syscStep_only s d (by rw [h.typ]; exact hst), h.typ, h.ts]
  exact ⟨_, rfl, rfl, h.status, rfl, fun hh => absurd rfl hh, fun _ => rfl⟩

theorem step_spp_first (c : Cfg) (s : St) (d : Nat) (t : Int) (h : WaitS s 0xF2 none t) (hd : d < 0x80) :
    ∃ s', step c s d = (s', []) ∧ WaitS s' 0xF2 (some d) t := by
  rw [step_sysc_data c s d h.mode hd, syscStep_first s d h.typ h.pend]
  exact ⟨_, rfl, h.mode, h.status, h.typ, rfl, h.ts⟩

theorem step_spp_second (c : Cfg) (s : St) (x d : Nat) (t : Int) (h : WaitS s 0xF2 (some x) t) (hd : d < 0x80) :
    ∃ s', step c s d = (s', [([0xF2, x, d], t)]) ∧ Clean s' 0 t := by
  rw [step_sysc_data c s d h.mode hd, syscStep_second s x d h.typ h.pend, h.ts]
  exact ⟨_, rfl, rfl, h.status, rfl, fun hh => absurd rfl hh, fun _ => rfl⟩

theorem step_sx_data (c : Cfg) (s : St) (data : Bytes) (d : Nat) (t0 t : Int) (h : InSx s data t0 t)
    (hc : c.sysex = true) (hlen : data.length + 1 < c.bufSize) (hd : d < 0x80) :
    ∃ s', step c s d = (s', []) ∧ InSx s' (data ++ [d]) t0 t := by
  have e1 : c.sysex = true ∧ s.sx ≠ [] := ⟨hc, by rw [h.sx]; simp⟩
  have e2 : s.sx.length < c.bufSize := by rw [h.sx]; simpa using hlen
  rw [step_sysex_data c s d h.mode hd, if_pos e1, if_pos e2]
  exact ⟨_, rfl, h.mode, h.status, by simp [h.sx], h.sxTs, h.ts⟩

theorem step_sx_end (c : Cfg) (s : St) (data : Bytes) (t0 t : Int) (h : InSx s data t0 t)
    (hc : c.sysex = true) (hlen : data.length + 1 < c.bufSize) :
    ∃ s', step c s 0xF7 = (s', [(0xF0 :: (data ++ [0xF7]), t0)]) ∧ Clean s' 0 t := by
  have e : c.sysex = true ∧ s.sx ≠ [] ∧ s.sx.length < c.bufSize := ⟨hc, by rw [h.sx]; simp, by rw [h.sx]; simpa using hlen⟩
  rw [step_sysex_end c s h.mode, if_pos e, h.sx, h.sxTs]
  exact ⟨_, rfl, rfl, h.status, h.ts, fun hh => absurd rfl hh, fun hh => absurd rfl hh⟩

end Midi.LiveWire
