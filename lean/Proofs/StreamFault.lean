import Proofs.StreamRun
/-!
C10 (read side): a source that starts failing with a non-EOF error makes `readFrom` return an error.

Two judgements on programs, `Safe` (started before the fault was met) and `Dead` (started after), each with a
postcondition on the outcome, a rule per constructor of `Prog` and one for `catch`; `FaultyOp` is what the rules need
of a primitive of `srcOps`. The postcondition is a parameter because of the one error after which the reader goes
on, that of the second data byte of a channel message (`FailsOrEmpty`).
-/
namespace Midi.Stream
open Midi.Smf

/-- the source has a (sticky) fault at offset `f`; `hit` is only set once the offset was reached -/
def Inv (f : Nat) (s : Src) : Prop := s.fault = some f ∧ (s.hit = true → f ≤ s.pos)

theorem Inv.adv {f : Nat} {s : Src} (h : Inv f s) (m : Nat) : Inv f (s.adv m) :=
  ⟨h.1, fun hh => Nat.le_trans (h.2 hh) (Nat.le_add_right _ _)⟩

theorem Inv.blocked_iff {f : Nat} {s : Src} (h : Inv f s) : s.blocked ↔ f ≤ s.pos :=
  ⟨fun ⟨_, hf, hp⟩ => by cases h.1.symm.trans hf; exact hp, fun hp => ⟨f, h.1, hp⟩⟩

theorem read_fault (f : Nat) (s : Src) (k : Nat) (h : Inv f s) (got : Bytes) (e : RdErr) (s' : Src)
    (hr : s.read k = (got, e, s')) :
    Inv f s' ∧
    (f ≤ s.pos → got = [] ∧ e = .io ∧ s'.hit = true) ∧
    (s.pos < f → s'.hit = s.hit ∧ e ≠ .io) := by
  by_cases hp : f ≤ s.pos
  · rw [read_blocked s k (h.blocked_iff.mpr hp)] at hr
    cases hr
    exact ⟨⟨h.1, fun _ => hp⟩, fun _ => ⟨rfl, rfl, rfl⟩, fun h => by omega⟩
  · obtain ⟨a, e', hread, _, _, _, he, _⟩ := read_open s k (fun hb => hp (h.blocked_iff.mp hb))
    rw [hread] at hr
    cases hr
    exact ⟨h.adv a, fun h => absurd h hp, fun _ => ⟨rfl, he⟩⟩

theorem bind_eq {α β : Type} (p : Prog α) (f : α → Prog β) : (p >>= f) = p.bind f := rfl
theorem pure_eq {α : Type} (a : α) : (pure a : Prog α) = Prog.pure a := rfl

/-- error classes that make `ReadFrom` return a value: `io.EOF` and `ErrFinished` -/
def Bad (e : Err) : Prop := e = .eof ∨ e = .finished

theorem not_bad_io : ¬ Bad .io := by intro h; rcases h with h | h <;> cases h
theorem not_bad_fuel : ¬ Bad .fuel := by intro h; rcases h with h | h <;> cases h
theorem not_bad_ueof : ¬ Bad .ueof := by intro h; rcases h with h | h <;> cases h
theorem not_bad_other : ¬ Bad .other := by intro h; rcases h with h | h <;> cases h
theorem not_bad_missing : ¬ Bad .missing := by intro h; rcases h with h | h <;> cases h

/-- What the analysis needs of a primitive `op`: it keeps the invariant, a failed source stays failed, and if the source
    has failed when `op` returns — during `op`, or before it when `op` `asks` for at least one byte — then `op` returns
    `atFault`. -/
def FaultyOp (f : Nat) {β : Type} (op : Src → β × Src) (atFault : β) (asks : Prop) : Prop :=
  ∀ s, Inv f s → Inv f (op s).2 ∧ (s.hit = true → (op s).2.hit = true) ∧
    ((op s).2.hit = true → s.hit = false ∨ asks → (op s).1 = atFault)

theorem faulty_readFull (f n : Nat) : FaultyOp f (srcOps.readFull n) (.error .io) (1 ≤ n) := by
  intro s h
  obtain ⟨e1, e2, e3⟩ := srcReadFull_eq (n + 1) n [] s (by omega)
  have hdead : s.hit = true → s.room = 0 := fun hh => room_of_blocked s (h.blocked_iff.mpr (h.2 hh))
  rw [show srcOps.readFull n s = srcReadFull (n + 1) n [] s from rfl]
  by_cases hn : n ≤ s.room
  · rw [e1 hn]
    refine ⟨h.adv n, id, fun hh hc => ?_⟩
    have := hdead hh
    rcases hc with hc | hc
    · exact absurd (show s.hit = true from hh) (by simp [hc])
    · omega
  · by_cases hb : (s.adv s.room).blocked
    · rw [e2 (by omega) hb]
      exact ⟨⟨h.1, fun _ => (h.adv _).blocked_iff.mp hb⟩, fun _ => rfl, fun _ _ => rfl⟩
    · rw [e3 (by omega) hb]
      refine ⟨h.adv _, id, fun hh _ => absurd ?_ hb⟩
      rw [hdead hh]
      exact h.blocked_iff.mpr (h.2 hh)

theorem faulty_discard (f n : Nat) : FaultyOp f (srcOps.discard n) (.error .io) (1 ≤ n) := by
  intro s h
  obtain ⟨o1, o2, o3⟩ := faulty_readFull f n s h
  rw [srcOps_discard]
  refine ⟨o1, o2, fun hh hc => ?_⟩
  rw [o3 hh hc]
  rfl

theorem faulty_readRaw (f : Nat) : FaultyOp f srcOps.readRaw none True := by
  intro s h
  by_cases hb : s.blocked
  · rw [(srcReadRaw_eq s).1 hb]
    exact ⟨⟨h.1, fun _ => h.blocked_iff.mp hb⟩, fun _ => rfl, fun _ _ => rfl⟩
  · rw [(srcReadRaw_eq s).2 hb]
    exact ⟨h.adv _, id, fun hh _ => absurd (h.blocked_iff.mpr (h.2 hh)) hb⟩

theorem run_inv (f : Nat) {α : Type} (p : Prog α) : ∀ s, Inv f s →
    Inv f (run srcOps p s).2 ∧ (s.hit = true → (run srcOps p s).2.hit = true) := by
  induction p with
  | pure a => intro s h; exact ⟨h, id⟩
  | fail e => intro s h; exact ⟨h, id⟩
  | readFull n k ih =>
    intro s h
    obtain ⟨o1, o2, _⟩ := faulty_readFull f n s h
    obtain ⟨i1, i2⟩ := ih _ _ o1
    exact ⟨i1, fun x => i2 (o2 x)⟩
  | readRaw k ih =>
    intro s h
    obtain ⟨o1, o2, _⟩ := faulty_readRaw f s h
    obtain ⟨i1, i2⟩ := ih _ _ o1
    exact ⟨i1, fun x => i2 (o2 x)⟩
  | discard n k ih =>
    intro s h
    obtain ⟨o1, o2, _⟩ := faulty_discard f n s h
    obtain ⟨i1, i2⟩ := ih _ _ o1
    exact ⟨i1, fun x => i2 (o2 x)⟩

/-- started on a source that has not failed yet: if the program touches the fault, its outcome is in `Q` -/
def Safe (f : Nat) {α : Type} (Q : Except Err α → Prop) (p : Prog α) : Prop :=
  ∀ s, Inv f s → s.hit = false → (run srcOps p s).2.hit = true → Q (run srcOps p s).1

/-- started on a source that has already failed, the outcome is in `Q` -/
def Dead (f : Nat) {α : Type} (Q : Except Err α → Prop) (p : Prog α) : Prop :=
  ∀ s, Inv f s → s.hit = true → Q (run srcOps p s).1

variable {f : Nat} {α β : Type} {Q : Except Err α → Prop}

theorem safe_pure {a : α} : Safe f Q (.pure a) := by
  intro s _ hh x
  rw [show (run srcOps (Prog.pure a) s).2 = s from rfl, hh] at x
  cases x

theorem safe_fail {e : Err} : Safe f Q (.fail e) := by
  intro s _ hh x
  rw [show (run srcOps (Prog.fail e : Prog α) s).2 = s from rfl, hh] at x
  cases x

theorem dead_pure {a : α} (h : Q (.ok a)) : Dead f Q (.pure a) :=
  fun _ _ _ => h

theorem dead_fail {e : Err} (h : Q (.error e)) : Dead f Q (.fail e) :=
  fun _ _ _ => h

/-- a program that starts with the primitive `op`: if `op` meets the fault the rest runs on the failed source with
    `atFault`, else it runs on a source that has not failed -/
theorem safe_step {op : Src → β × Src} {atFault : β} {asks : Prop} (ho : FaultyOp f op atFault asks) {p : Prog α}
    {k : β → Prog α} (hp : ∀ s, run srcOps p s = run srcOps (k (op s).1) (op s).2)
    (hd : Dead f Q (k atFault)) (hs : ∀ r, Safe f Q (k r)) : Safe f Q p := by
  intro s h hh x
  obtain ⟨o1, _, o3⟩ := ho s h
  rw [hp] at x ⊢
  cases hx : (op s).2.hit with
  | true =>
    rw [o3 hx (Or.inl hh)]
    exact hd _ o1 hx
  | false => exact hs _ _ o1 hx x

theorem dead_step {op : Src → β × Src} {atFault : β} {asks : Prop} (ho : FaultyOp f op atFault asks) {p : Prog α}
    {k : β → Prog α} (hp : ∀ s, run srcOps p s = run srcOps (k (op s).1) (op s).2) (ha : asks)
    (hd : Dead f Q (k atFault)) : Dead f Q p := by
  intro s h hh
  obtain ⟨o1, o2, o3⟩ := ho s h
  rw [hp, o3 (o2 hh) (Or.inr ha)]
  exact hd _ o1 (o2 hh)

theorem safe_readFull {n : Nat} {k : Except Err Bytes → Prog α} (hd : Dead f Q (k (.error .io)))
    (hs : ∀ r, Safe f Q (k r)) : Safe f Q (.readFull n k) :=
  safe_step (faulty_readFull f n) (fun _ => rfl) hd hs

theorem dead_readFull {n : Nat} {k : Except Err Bytes → Prog α} (hn : 1 ≤ n) (hd : Dead f Q (k (.error .io))) :
    Dead f Q (.readFull n k) :=
  dead_step (faulty_readFull f n) (fun _ => rfl) hn hd

theorem safe_readRaw {k : Option Nat → Prog α} (hd : Dead f Q (k none)) (hs : ∀ r, Safe f Q (k r)) :
    Safe f Q (.readRaw k) :=
  safe_step (faulty_readRaw f) (fun _ => rfl) hd hs

theorem dead_readRaw {k : Option Nat → Prog α} (hd : Dead f Q (k none)) : Dead f Q (.readRaw k) :=
  dead_step (faulty_readRaw f) (fun _ => rfl) trivial hd

theorem safe_discard {n : Nat} {k : Except Err Unit → Prog α} (hd : Dead f Q (k (.error .io)))
    (hs : ∀ r, Safe f Q (k r)) : Safe f Q (.discard n k) :=
  safe_step (faulty_discard f n) (fun _ => rfl) hd hs

/-- sequencing: where the first part met the fault its outcome is in `P`, and the rest runs on the failed source -/
theorem safe_catch {P : Except Err β → Prop} {p : Prog β} {g : Except Err β → Prog α} (hp : Safe f P p)
    (hd : ∀ r, P r → Dead f Q (g r)) (hs : ∀ r, Safe f Q (g r)) : Safe f Q (p.catch g) := by
  intro s h hh x
  rw [run_catch] at x ⊢
  cases hx : (run srcOps p s).2.hit with
  | true => exact hd _ (hp s h hh hx) _ (run_inv f p s h).1 hx
  | false => exact hs _ _ (run_inv f p s h).1 hx x

theorem dead_catch {P : Except Err β → Prop} {p : Prog β} {g : Except Err β → Prog α} (hp : Dead f P p)
    (hd : ∀ r, P r → Dead f Q (g r)) : Dead f Q (p.catch g) := by
  intro s h hh
  rw [run_catch]
  exact hd _ (hp s h hh) _ (run_inv f p s h).1 ((run_inv f p s h).2 hh)

/-- the outcome is an error, and not one `ReadFrom` takes for the normal end -/
def Fails {α : Type} (r : Except Err α) : Prop := ∃ e, r = .error e ∧ ¬ Bad e

theorem fails_error (e : Err) (h : ¬ Bad e) : Fails (.error e : Except Err α) := ⟨e, rfl, h⟩

theorem safe_bind {p : Prog β} {g : β → Prog α} (hQ : ∀ e, ¬ Bad e → Q (.error e)) (hp : Safe f Fails p)
    (hg : ∀ a, Safe f Q (g a)) : Safe f Q (p.bind g) := by
  rw [bind_catch]
  refine safe_catch hp (fun r hr => ?_) (fun r => ?_)
  · obtain ⟨e, rfl, hne⟩ := hr
    exact dead_fail (hQ e hne)
  · cases r with
    | ok a => exact hg a
    | error e => exact safe_fail

theorem dead_bind {p : Prog β} {g : β → Prog α} (hQ : ∀ e, ¬ Bad e → Q (.error e)) (hp : Dead f Fails p) :
    Dead f Q (p.bind g) := by
  rw [bind_catch]
  refine dead_catch hp (fun r hr => ?_)
  obtain ⟨e, rfl, hne⟩ := hr
  exact dead_fail (hQ e hne)

theorem safe_readN {n : Nat} : Safe f Fails (readN n) :=
  safe_readFull (dead_fail (fails_error .io not_bad_io)) fun r => by
    cases r with
    | ok b => exact safe_pure
    | error e => exact safe_fail

theorem dead_readN {n : Nat} (hn : 1 ≤ n) : Dead f Fails (readN n) :=
  dead_readFull hn (dead_fail (fails_error .io not_bad_io))

theorem safe_readByte : Safe f Fails readByte :=
  safe_readFull (dead_fail (fails_error .io not_bad_io)) fun r => by
    split
    · exact safe_pure
    · exact safe_fail
    · exact safe_fail

theorem safe_readVlq : ∀ fuel acc, Safe f Fails (readVlq fuel acc) := by
  intro fuel
  induction fuel with
  | zero => intro acc; exact safe_fail
  | succ fuel ih =>
    intro acc
    refine safe_readRaw (dead_fail (fails_error .ueof not_bad_ueof)) fun r => ?_
    cases r with
    | none => exact safe_fail
    | some b =>
      dsimp only
      split
      · exact safe_pure
      · exact ih _

theorem dead_readVlq (fuel acc : Nat) : Dead f Fails (readVlq fuel acc) := by
  cases fuel with
  | zero => exact dead_fail (fails_error .fuel not_bad_fuel)
  | succ fuel =>
    exact dead_readRaw (dead_fail (fails_error .ueof not_bad_ueof))

theorem safe_chunkLoop : ∀ fuel started, Safe f Fails (chunkLoop fuel started) := by
  intro fuel
  induction fuel with
  | zero => intro st; exact safe_fail
  | succ fuel ih =>
    intro st
    simp only [chunkLoop, bind_eq, pure_eq]
    refine safe_bind fails_error safe_readN fun typ => ?_
    refine safe_bind fails_error safe_readN fun len4 => ?_
    split
    · exact safe_pure
    · refine safe_discard (dead_fail (fails_error .io not_bad_io)) fun r => ?_
      cases r with
      | ok u => exact ih st
      | error e => exact safe_fail

theorem dead_chunkLoop (fuel started : Nat) : Dead f Fails (chunkLoop fuel started) := by
  cases fuel with
  | zero => exact dead_fail (fails_error .fuel not_bad_fuel)
  | succ fuel =>
    simp only [chunkLoop, bind_eq]
    exact dead_bind fails_error (dead_readN (by omega))

/-- the event decoder fails at the fault, or it has swallowed the failure of the second data byte:
    then the message is empty -/
def FailsOrEmpty (r : Except Err Ev) : Prop := Fails r ∨ ∃ ev, r = .ok ev ∧ ev.msg = []

theorem failsOrEmpty_error (e : Err) (h : ¬ Bad e) : FailsOrEmpty (.error e) := Or.inl (fails_error e h)

theorem safe_finishChan (δ st a1 : Nat) : Safe f FailsOrEmpty (finishChan δ st a1) := by
  unfold finishChan
  split
  · exact safe_pure
  · refine safe_readFull (dead_pure (Or.inr ⟨_, rfl, rfl⟩)) fun r => ?_
    split <;> exact safe_pure

theorem safe_readEvent (vfuel rr : Nat) : Safe f FailsOrEmpty (readEvent vfuel rr) := by
  simp only [readEvent, bind_eq, pure_eq]
  refine safe_bind failsOrEmpty_error (safe_readVlq _ _) fun δ => ?_
  refine safe_bind failsOrEmpty_error safe_readByte fun c => ?_
  split
  · refine safe_bind failsOrEmpty_error safe_readByte fun t => ?_
    refine safe_bind failsOrEmpty_error (safe_readVlq _ _) fun n => ?_
    refine safe_bind failsOrEmpty_error safe_readN fun d => ?_
    exact safe_pure
  · split
    · refine safe_bind failsOrEmpty_error (safe_readVlq _ _) fun n => ?_
      refine safe_bind failsOrEmpty_error safe_readN fun d => ?_
      exact safe_pure
    · split
      · refine safe_bind failsOrEmpty_error safe_readByte fun a1 => ?_
        exact safe_finishChan _ _ _
      · split
        · exact safe_fail
        · exact safe_finishChan _ _ _

theorem dead_readEvent (vfuel rr : Nat) : Dead f FailsOrEmpty (readEvent vfuel rr) := by
  simp only [readEvent, bind_eq]
  exact dead_bind failsOrEmpty_error (dead_readVlq _ _)

theorem endErr_not_bad (e : Err) (m : Bool) (h : ¬ Bad e) : ¬ Bad (if e = .eof ∧ m = true then .missing else e) := by
  have : ¬ (e = .eof ∧ m = true) := fun hc => h (Or.inl hc.1)
  simp only [this, if_false]; exact h

/-- the loop has ended, and not "normally" (`finished` / `io.EOF`) -/
def Abnormal (r : Except Err LoopRes) : Prop := ∃ st e, r = .ok (st, e) ∧ ¬ Bad e

/-- The rest of an iteration after the decoder. An empty message is not end-of-track, so after a swallowed failure the
    loop goes on, on the failed source, with `done = false`. -/
theorem afterEvent_fault (k : RState → Prog LoopRes) (s1 : RState) (hs : ∀ st, Safe f Abnormal (k st))
    (hd : ∀ st, st.done = false → Dead f Abnormal (k st)) :
    (∀ r, Safe f Abnormal (afterEvent k s1 r)) ∧ (∀ r, FailsOrEmpty r → Dead f Abnormal (afterEvent k s1 r)) := by
  refine ⟨fun r => ?_, fun r hr => ?_⟩
  · cases r with
    | error e => exact safe_pure
    | ok ev =>
      simp only [afterEvent]
      split
      · exact safe_pure
      · exact hs _
  · rcases hr with ⟨e, rfl, hne⟩ | ⟨ev, rfl, hm⟩
    · exact dead_pure ⟨_, _, rfl, endErr_not_bad e _ hne⟩
    · simp only [afterEvent]
      split
      · exact dead_pure ⟨_, _, rfl, not_bad_other⟩
      · exact hd _ (by simp [hm, isEOTMsg])

theorem readLoop_fault : ∀ (lf vf : Nat) (st : RState),
    Safe f Abnormal (readLoop lf vf st) ∧ (st.done = false → Dead f Abnormal (readLoop lf vf st)) := by
  intro lf
  induction lf with
  | zero => intro vf st; exact ⟨safe_pure, fun _ => dead_pure ⟨_, _, rfl, not_bad_fuel⟩⟩
  | succ lf ih =>
    intro vf st
    unfold readLoop
    by_cases hd : st.done = true
    · simp only [hd, if_true]
      exact ⟨safe_pure, fun h => by cases h⟩
    · simp only [hd, Bool.false_eq_true, if_false]
      have hev : ∀ s1, _ := fun s1 => afterEvent_fault (readLoop lf vf) s1 (fun st => (ih vf st).1) (fun st => (ih vf st).2)
      have hsafe : ∀ r, Safe f Abnormal (afterChunk vf (readLoop lf vf) st r) := fun r => by
        cases r with
        | error e => exact safe_pure
        | ok started => exact safe_catch (safe_readEvent vf _) (hev _).2 (hev _).1
      have hdead : ∀ r, Fails r → Dead f Abnormal (afterChunk vf (readLoop lf vf) st r) := fun r ⟨e, he, hne⟩ => by
        subst he
        exact dead_pure ⟨_, _, rfl, endErr_not_bad e _ hne⟩
      by_cases hx : st.expectChunk = true
      · simp only [hx, if_true]
        exact ⟨safe_catch (safe_chunkLoop vf _) hdead hsafe, fun _ => dead_catch (dead_chunkLoop vf _) hdead⟩
      · simp only [hx, Bool.false_eq_true, if_false]
        exact ⟨hsafe (.ok st.started), fun _ => dead_catch (g := afterEvent _ _) (dead_readEvent vf _) (hev _).2⟩

theorem readFrom_fault (f fuel : Nat) (s : Src) (h : Inv f s) (hh : s.hit = false)
    (hhit : (run srcOps (readFrom fuel) s).2.hit = true) :
    ∃ e, (run srcOps (readFrom fuel) s).1 = .ok (.error e) := by
  unfold readFrom at hhit ⊢
  refine safe_catch (P := Fails) (Q := fun r => ∃ e, r = .ok (.error e)) ?_ (fun r hr => ?_) (fun r => ?_) s h hh hhit
  · simp only [bind_eq, pure_eq]
    refine safe_bind fails_error safe_readN fun typ => ?_
    refine safe_bind fails_error safe_readN fun l4 => ?_
    split
    · exact safe_fail
    · refine safe_bind fails_error safe_readN fun fm => ?_
      split
      · exact safe_fail
      · refine safe_bind fails_error safe_readN fun nt => ?_
        refine safe_bind fails_error safe_readN fun dv => ?_
        exact safe_pure
  · obtain ⟨e, rfl, _⟩ := hr
    exact dead_pure ⟨e, rfl⟩
  · cases r with
    | error e => exact safe_pure
    | ok x =>
      obtain ⟨format, numTracks, tf⟩ := x
      dsimp only
      rw [bind_catch]
      refine safe_catch (readLoop_fault fuel fuel _).1 (fun r hr => ?_) (fun r => ?_)
      · obtain ⟨st, e, rfl, hne⟩ := hr
        dsimp only
        split
        · exact dead_pure ⟨_, rfl⟩
        · split
          · rename_i hc
            exact absurd (Or.symm hc) hne
          · exact dead_pure ⟨_, rfl⟩
      · cases r with
        | error e => exact safe_fail
        | ok x =>
          dsimp only
          split
          · exact safe_pure
          · split <;> exact safe_pure

end Midi.Stream
