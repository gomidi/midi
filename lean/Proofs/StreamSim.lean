import Proofs.StreamRun
/-! C09: every reader program gives the same result over a fragmenting source and over in-memory bytes. -/
namespace Midi.Stream
open Midi.Smf

/-- fault-free source and in-memory rest hold the same unread data -/
def Sim (s : Src) (l : Bytes) : Prop := s.data = l ∧ s.fault = none ∧ s.hit = false

theorem Sim.room {s : Src} {l : Bytes} (h : Sim s l) : s.room = l.length := by
  simp [Src.room, h.2.1, h.1]

theorem Sim.not_blocked {s : Src} {l : Bytes} (h : Sim s l) : ¬ s.blocked :=
  fun ⟨_, hf, _⟩ => by cases h.2.1.symm.trans hf

theorem Sim.adv {s : Src} {l : Bytes} (h : Sim s l) (m : Nat) : Sim (s.adv m) (l.drop m) :=
  ⟨by rw [← h.1]; rfl, h.2.1, h.2.2⟩

theorem readFull_sim (n : Nat) (s : Src) (l : Bytes) (h : Sim s l) :
    (srcOps.readFull n s).1 = (listOps.readFull n l).1 ∧ Sim (srcOps.readFull n s).2 (listOps.readFull n l).2 := by
  obtain ⟨e1, _, e3⟩ := srcReadFull_eq (n + 1) n [] s (by omega)
  rw [listOps_readFull, show srcOps.readFull n s = srcReadFull (n + 1) n [] s from rfl]
  by_cases hl : l.length < n
  · rw [if_pos hl, e3 (by rw [h.room]; exact hl) (h.adv _).not_blocked, h.room, List.nil_append, h.1]
    exact ⟨rfl, by simpa using h.adv l.length⟩
  · rw [if_neg hl, e1 (by rw [h.room]; omega), List.nil_append, h.1]
    exact ⟨rfl, h.adv n⟩

theorem readRaw_sim (s : Src) (l : Bytes) (h : Sim s l) :
    (srcOps.readRaw s).1 = (listOps.readRaw l).1 ∧ Sim (srcOps.readRaw s).2 (listOps.readRaw l).2 := by
  rw [(srcReadRaw_eq s).2 h.not_blocked, h.room, h.1]
  cases l with
  | nil => exact ⟨rfl, h.adv _⟩
  | cons b r => exact ⟨rfl, h.adv 1⟩

theorem discard_sim (n : Nat) (s : Src) (l : Bytes) (h : Sim s l) :
    (srcOps.discard n s).1 = (listOps.discard n l).1 ∧ Sim (srcOps.discard n s).2 (listOps.discard n l).2 := by
  rw [srcOps_discard, listOps_discard, (readFull_sim n s l h).1]
  exact ⟨rfl, (readFull_sim n s l h).2⟩

theorem run_sim {α : Type} (p : Prog α) : ∀ (s : Src) (l : Bytes), Sim s l →
    (run srcOps p s).1 = (run listOps p l).1 ∧ Sim (run srcOps p s).2 (run listOps p l).2 := by
  induction p with
  | pure a => intro s l h; exact ⟨rfl, h⟩
  | fail e => intro s l h; exact ⟨rfl, h⟩
  | readFull n k ih =>
    intro s l h
    obtain ⟨h1, h2⟩ := readFull_sim n s l h
    simp only [run]
    rw [h1]
    exact ih _ _ _ h2
  | readRaw k ih =>
    intro s l h
    obtain ⟨h1, h2⟩ := readRaw_sim s l h
    simp only [run]
    rw [h1]
    exact ih _ _ _ h2
  | discard n k ih =>
    intro s l h
    obtain ⟨h1, h2⟩ := discard_sim n s l h
    simp only [run]
    rw [h1]
    exact ih _ _ _ h2

end Midi.Stream
