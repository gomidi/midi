import MidiModel.Record
import MidiModel.Generated.RecordGo
import Props.C01_Track
import Props.C08_Code
/-!
# C13, tie to the source: the function literal `Track.RecordFrom` hands to `midi.ListenTo` (`smf/track.go`) as translated —
its captured variables (`t`, `absmillisec`, `ticks`, `bpm`) an environment structure, `t.Add` the translated `Track.Add`
(tied in `Props/C01_Track.lean`), the `int32` subtraction with its wrap, and the float conversion `MetricTicks.Ticks` an
uninterpreted function on both sides — is the model's `Record.onMsg`: only channel messages are stored, each with the ticks
of the time since the previous stored message.
-/
open Midi Midi.Go
namespace Midi.C13

theorem wrap32_eq (x : Int) : Go.wrapS 32 x = Record.wrap32 x := by
  unfold Go.wrapS Record.wrap32; rfl

theorem is_chan (msg : Bytes) : midi.Message.Is msg (-3 : Int) = .ok (Record.isChannelMsg msg) := by
  cases msg with
  | nil => rw [Midi.C08.code_Is_nil]; rfl
  | cons b r => rw [Midi.C08.code_Is_cons]; rfl

/-- `Go.wrapS 64 (d * 1000000)` is `time.Duration(deltams) * time.Millisecond`: nanoseconds in `int64` -/
theorem code_record_onMsg (ext : Nat → Float → Int → Nat) (tr : Smf.Track) (abs0 : Int) (q : Nat) (bpm : Float)
    (msg : Bytes) (absms : Int) (hlen : tr.length < 4611686018427387904) :
    smf.Track.RecordFrom.arg_ListenTo ext ⟨abs0, q, bpm, Midi.C01.toGo tr⟩ msg absms =
      .ok (let s' := Record.onMsg (fun d => ext q bpm (Go.wrapS 64 (d * 1000000))) ⟨tr, abs0⟩ (msg, absms)
           ⟨s'.absms, q, bpm, Midi.C01.toGo s'.track⟩) := by
  unfold smf.Track.RecordFrom.arg_ListenTo Record.onMsg
  cases hc : Record.isChannelMsg msg <;>
    simp only [go_eval, ↓reduceIte, ↓Go.bind_eq_of_pure (is_chan msg), hc, wrap32_eq,
      ↓Go.bind_eq_of_pure (Midi.C01.code_Add tr _ [msg] hlen)] <;> rfl

end Midi.C13
