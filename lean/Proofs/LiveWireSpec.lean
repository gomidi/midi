import MidiModel.LiveWire
/-!
# Facts about the wire specification itself (`MidiModel/LiveWire.lean`); no decoder here
-/
namespace Midi.LiveWire
open Midi.Live

theorem tickSum_append (a b : List Tok) : tickSum (a ++ b) = tickSum a + tickSum b := by
  induction a with
  | nil => simp [tickSum]
  | cons x a ih => cases x <;> simp [tickSum, ih, Int.add_assoc]

theorem tickSum_nonneg (g : Gap) (h : gapNonneg g = true) : 0 ≤ tickSum g := by
  induction g with
  | nil => exact Int.le_refl 0
  | cons x g ih =>
    cases x with
    | byte b => exact ih h
    | tick d =>
      simp only [gapNonneg, Bool.and_eq_true, decide_eq_true_eq] at h
      have := ih h.2
      simp only [tickSum]
      omega

theorem bytesOf_append (a b : List Tok) : bytesOf (a ++ b) = bytesOf a ++ bytesOf b := by
  induction a with
  | nil => simp [bytesOf]
  | cons x a ih => cases x <;> simp [bytesOf, ih]

theorem tickSum_bodyToks (body : Body) : tickSum (bodyToks body) = bodyTime body := by
  induction body with
  | nil => rfl
  | cons p r ih =>
    obtain ⟨g, d⟩ := p
    simp only [bodyToks, bodyTime, tickSum_append, tickSum, ih]

theorem item_time (it : Item) : it.time = tickSum it.toks := by
  cases it with
  | rt b => rfl
  | tick d => simp [Item.time, Item.toks, tickSum]
  | chan st e body => cases e <;> simp [Item.time, Item.toks, tickSum, tickSum_bodyToks]
  | sysc st body => simp [Item.time, Item.toks, tickSum, tickSum_bodyToks]
  | sysex body last => simp [Item.time, Item.toks, tickSum, tickSum_append, tickSum_bodyToks]

theorem wireToks_append (a b : List Item) : wireToks (a ++ b) = wireToks a ++ wireToks b := by
  induction a with
  | nil => rfl
  | cons x a ih => simp [wireToks, ih]

theorem expectedFrom_append (a b : List Item) :
    ∀ t : Int, expectedFrom t (a ++ b) = expectedFrom t a ++ expectedFrom (t + tickSum (wireToks a)) b := by
  induction a with
  | nil => intro t; simp [expectedFrom, wireToks, tickSum]
  | cons x a ih =>
    intro t
    simp only [List.cons_append, expectedFrom, wireToks, ih, tickSum_append, item_time, List.append_assoc,
      Int.add_assoc]

def runAfterAll : Nat → List Item → Nat
  | run, [] => run
  | run, it :: r => runAfterAll (it.runAfter run) r

theorem wfFrom_append (bs : Nat) (a b : List Item) :
    ∀ run : Nat, wfFrom bs run (a ++ b) = (wfFrom bs run a && wfFrom bs (runAfterAll run a) b) := by
  induction a with
  | nil => intro run; simp [wfFrom, runAfterAll]
  | cons x a ih => intro run; simp [wfFrom, runAfterAll, ih, Bool.and_assoc]

theorem delivered_append (a b : List Stamped) : delivered (a ++ b) = delivered a ++ delivered b := by
  simp [delivered]

theorem bodyOk_cons {g : Gap} {d : Nat} {r : Body} (h : bodyOk ((g, d) :: r) = true) :
    gapOk g = true ∧ d < 0x80 ∧ bodyOk r = true := by
  simpa [bodyOk, and_assoc] using h

theorem body_one {body : Body} (hl : body.length = 1) (hb : bodyOk body = true) :
    ∃ g d, body = [(g, d)] ∧ gapOk g = true ∧ d < 0x80 := by
  match body, hl, hb with
  | [(g, d)], _, hb => exact ⟨g, d, rfl, (bodyOk_cons hb).1, (bodyOk_cons hb).2.1⟩

theorem body_two {body : Body} (hl : body.length = 2) (hb : bodyOk body = true) :
    ∃ g1 d1 g2 d2, body = [(g1, d1), (g2, d2)] ∧ gapOk g1 = true ∧ d1 < 0x80 ∧ gapOk g2 = true ∧ d2 < 0x80 := by
  match body, hl, hb with
  | [(g1, d1), (g2, d2)], _, hb =>
    obtain ⟨h1, h2, hb2⟩ := bodyOk_cons hb
    exact ⟨g1, d1, g2, d2, rfl, h1, h2, (bodyOk_cons hb2).1, (bodyOk_cons hb2).2.1⟩

theorem chanLen_cases (st : Nat) : chanLen st = 1 ∨ chanLen st = 2 := by
  unfold chanLen
  split <;> simp

theorem body_ne_nil {body : Body} {st : Nat} (h : body.length = chanLen st) : body ≠ [] := by
  intro e
  rw [e] at h
  rcases chanLen_cases st with h' | h' <;> rw [h'] at h <;> cases h

theorem syscLen_cases {st n : Nat} (h : syscLen st = some n) :
    ((st = 0xF1 ∨ st = 0xF3) ∧ n = 1) ∨ (st = 0xF2 ∧ n = 2) ∨ (st = 0xF6 ∧ n = 0) := by
  unfold syscLen at h
  split at h
  · left; exact ⟨by assumption, by simpa using h.symm⟩
  · split at h
    · right; left; exact ⟨by assumption, by simpa using h.symm⟩
    · split at h
      · right; right; exact ⟨by assumption, by simpa using h.symm⟩
      · simp at h

theorem toks_end_byte (it : Item) (run bs : Nat) (hok : it.ok bs run = true) (hm : it.message.isSome = true) :
    ∃ i b, it.toks = i ++ [Tok.byte b] := by
  have body_end : ∀ body : Body, body ≠ [] → ∃ i b, bodyToks body = i ++ [Tok.byte b] := by
    intro body
    induction body with
    | nil => intro h; exact absurd rfl h
    | cons p r ih =>
      obtain ⟨g, d⟩ := p
      intro _
      cases r with
      | nil => exact ⟨g, d, by simp [bodyToks]⟩
      | cons q r' =>
        obtain ⟨i, b, e⟩ := ih (by simp)
        exact ⟨g ++ Tok.byte d :: i, b, by simp only [bodyToks] at e ⊢; rw [e]; simp⟩
  cases it with
  | rt b => exact ⟨[], b, rfl⟩
  | tick d => simp [Item.message] at hm
  | chan st e body =>
    simp only [Item.ok, Bool.and_eq_true, decide_eq_true_eq] at hok
    obtain ⟨i, b, hb⟩ := body_end body (body_ne_nil hok.1.2)
    exact ⟨(if e then [] else [Tok.byte st]) ++ i, b, by simp [Item.toks, hb]⟩
  | sysc st body =>
    by_cases hne : body = []
    · exact ⟨[], st, by simp [Item.toks, hne, bodyToks]⟩
    · obtain ⟨i, b, e⟩ := body_end body hne
      exact ⟨Tok.byte st :: i, b, by simp [Item.toks, e]⟩
  | sysex body last => exact ⟨Tok.byte 0xF0 :: (bodyToks body ++ last), 0xF7, by simp [Item.toks]⟩

theorem tickSum_dropLast_byte (i : List Tok) (b : Nat) : tickSum (i ++ [Tok.byte b]).dropLast = tickSum (i ++ [Tok.byte b]) := by
  simp [tickSum_append, tickSum]

/-- the stamp of an item's own message when the item starts at clock `t`: the clock at its last byte; sysex: at
    its first byte -/
def Item.stampAt (t : Int) : Item → Int
  | .sysex _ _ => t
  | it => t + it.time

theorem msgs_split (it : Item) (t : Int) (m : Bytes) (hm : it.message = some m) :
    it.msgs t = it.inner t ++ [(m, it.stampAt t)] := by
  cases it with
  | rt b => simp [Item.message] at hm; subst hm; simp [Item.msgs, Item.inner, Item.stampAt, Item.time]
  | tick d => simp [Item.message] at hm
  | chan st e body => simp [Item.message] at hm; subst hm; simp [Item.msgs, Item.inner, Item.stampAt, Item.time]
  | sysc st body => simp [Item.message] at hm; subst hm; simp [Item.msgs, Item.inner, Item.stampAt, Item.time]
  | sysex body last => simp [Item.message] at hm; subst hm; simp [Item.msgs, Item.inner, Item.stampAt]

theorem stampAt_nonsysex (it : Item) (t : Int) (hns : ∀ b l, it ≠ .sysex b l) : it.stampAt t = t + it.time := by
  cases it with
  | sysex b l => exact absurd rfl (hns b l)
  | _ => rfl

end Midi.LiveWire
