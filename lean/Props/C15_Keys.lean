import Props.C15_Ctor
/-!
# C15, tie to the source: the 26 named key constructors of `smf/key.go` (`CMaj()` … `EbMin()`, through `key` and
`MetaKey`) as translated produce the bytes the model's `namedKey` gives for that name.
(The table `Meta.namedKeys` itself is compared with the regenerated facts in `Props/C15.lean`.)
`smf.CMaj` unfolds to `smf.key 0 0 true false`, and that to `smf.MetaKey 0 true 0 false`: each theorem is `code_MetaKey`
at the literals of the Go text, and the entry of the model's table is found by evaluation.
-/
namespace Midi.C15
open Midi Midi.Go

theorem code_CMaj : ∃ b, Meta.namedKey "CMaj" = some b ∧ smf.CMaj = .ok b :=
  ⟨_, by decide +kernel, code_MetaKey 0 true 0 false⟩

theorem code_DMaj : ∃ b, Meta.namedKey "DMaj" = some b ∧ smf.DMaj = .ok b :=
  ⟨_, by decide +kernel, code_MetaKey 2 true 2 false⟩

theorem code_EMaj : ∃ b, Meta.namedKey "EMaj" = some b ∧ smf.EMaj = .ok b :=
  ⟨_, by decide +kernel, code_MetaKey 4 true 4 false⟩

theorem code_FsharpMaj : ∃ b, Meta.namedKey "FsharpMaj" = some b ∧ smf.FsharpMaj = .ok b :=
  ⟨_, by decide +kernel, code_MetaKey 6 true 6 false⟩

theorem code_GMaj : ∃ b, Meta.namedKey "GMaj" = some b ∧ smf.GMaj = .ok b :=
  ⟨_, by decide +kernel, code_MetaKey 7 true 1 false⟩

theorem code_AMaj : ∃ b, Meta.namedKey "AMaj" = some b ∧ smf.AMaj = .ok b :=
  ⟨_, by decide +kernel, code_MetaKey 9 true 3 false⟩

theorem code_BMaj : ∃ b, Meta.namedKey "BMaj" = some b ∧ smf.BMaj = .ok b :=
  ⟨_, by decide +kernel, code_MetaKey 11 true 5 false⟩

theorem code_FMaj : ∃ b, Meta.namedKey "FMaj" = some b ∧ smf.FMaj = .ok b :=
  ⟨_, by decide +kernel, code_MetaKey 5 true 1 true⟩

theorem code_BbMaj : ∃ b, Meta.namedKey "BbMaj" = some b ∧ smf.BbMaj = .ok b :=
  ⟨_, by decide +kernel, code_MetaKey 10 true 2 true⟩

theorem code_EbMaj : ∃ b, Meta.namedKey "EbMaj" = some b ∧ smf.EbMaj = .ok b :=
  ⟨_, by decide +kernel, code_MetaKey 3 true 3 true⟩

theorem code_AbMaj : ∃ b, Meta.namedKey "AbMaj" = some b ∧ smf.AbMaj = .ok b :=
  ⟨_, by decide +kernel, code_MetaKey 8 true 4 true⟩

theorem code_DbMaj : ∃ b, Meta.namedKey "DbMaj" = some b ∧ smf.DbMaj = .ok b :=
  ⟨_, by decide +kernel, code_MetaKey 1 true 5 true⟩

theorem code_GbMaj : ∃ b, Meta.namedKey "GbMaj" = some b ∧ smf.GbMaj = .ok b :=
  ⟨_, by decide +kernel, code_MetaKey 6 true 6 true⟩

theorem code_AMin : ∃ b, Meta.namedKey "AMin" = some b ∧ smf.AMin = .ok b :=
  ⟨_, by decide +kernel, code_MetaKey 9 false 0 false⟩

theorem code_BMin : ∃ b, Meta.namedKey "BMin" = some b ∧ smf.BMin = .ok b :=
  ⟨_, by decide +kernel, code_MetaKey 11 false 2 false⟩

theorem code_CsharpMin : ∃ b, Meta.namedKey "CsharpMin" = some b ∧ smf.CsharpMin = .ok b :=
  ⟨_, by decide +kernel, code_MetaKey 1 false 4 false⟩

theorem code_DsharpMin : ∃ b, Meta.namedKey "DsharpMin" = some b ∧ smf.DsharpMin = .ok b :=
  ⟨_, by decide +kernel, code_MetaKey 3 false 6 false⟩

theorem code_EMin : ∃ b, Meta.namedKey "EMin" = some b ∧ smf.EMin = .ok b :=
  ⟨_, by decide +kernel, code_MetaKey 4 false 1 false⟩

theorem code_FsharpMin : ∃ b, Meta.namedKey "FsharpMin" = some b ∧ smf.FsharpMin = .ok b :=
  ⟨_, by decide +kernel, code_MetaKey 6 false 3 false⟩

theorem code_GsharpMin : ∃ b, Meta.namedKey "GsharpMin" = some b ∧ smf.GsharpMin = .ok b :=
  ⟨_, by decide +kernel, code_MetaKey 8 false 5 false⟩

theorem code_DMin : ∃ b, Meta.namedKey "DMin" = some b ∧ smf.DMin = .ok b :=
  ⟨_, by decide +kernel, code_MetaKey 2 false 1 true⟩

theorem code_GMin : ∃ b, Meta.namedKey "GMin" = some b ∧ smf.GMin = .ok b :=
  ⟨_, by decide +kernel, code_MetaKey 7 false 2 true⟩

theorem code_CMin : ∃ b, Meta.namedKey "CMin" = some b ∧ smf.CMin = .ok b :=
  ⟨_, by decide +kernel, code_MetaKey 0 false 3 true⟩

theorem code_FMin : ∃ b, Meta.namedKey "FMin" = some b ∧ smf.FMin = .ok b :=
  ⟨_, by decide +kernel, code_MetaKey 5 false 4 true⟩

theorem code_BbMin : ∃ b, Meta.namedKey "BbMin" = some b ∧ smf.BbMin = .ok b :=
  ⟨_, by decide +kernel, code_MetaKey 10 false 5 true⟩

theorem code_EbMin : ∃ b, Meta.namedKey "EbMin" = some b ∧ smf.EbMin = .ok b :=
  ⟨_, by decide +kernel, code_MetaKey 3 false 6 true⟩

end Midi.C15
