import MidiModel.Midicat
/-!
# Lemmas about the midicat line codec

`%d`/`%X` read back by `ParseInt`/`hex.Decode`; the reader loop by its single round (`step`), on runs of
plain bytes, and from the initial state by the shape of the stream (`Outcome`); the reader against a
fragmenting source.
-/
namespace Midi.Midicat

def Int32Range (i : Int) : Prop := -2147483648 ≤ i ∧ i ≤ 2147483647

/-- no separator (blank) and no terminator (newline) among the bytes -/
def Plain (l : Bytes) : Prop := ∀ b ∈ l, b ≠ 32 ∧ b ≠ 10

def AllHex (l : Bytes) : Prop := ∀ b ∈ l, isHex b = true

theorem plain_nil : Plain [] := fun _ h => nomatch h

theorem plain_cons {b : Nat} {l : Bytes} : Plain (b :: l) ↔ (b ≠ 32 ∧ b ≠ 10) ∧ Plain l := List.forall_mem_cons

theorem plain_append {l m : Bytes} : Plain (l ++ m) ↔ Plain l ∧ Plain m := List.forall_mem_append

theorem hexVal_hexChar : ∀ n < 16, hexVal (hexChar n) = some n := by decide

theorem hexVal_some_of_isHex {b : Nat} (h : isHex b = true) : ∃ v, hexVal b = some v :=
  Option.isSome_iff_exists.mp h

theorem hexVal_none_of_not_isHex {b : Nat} (h : isHex b = false) : hexVal b = none := by
  simpa [isHex] using h

theorem allHex_hexStr (bs : Bytes) : AllHex (hexStr bs) := by
  refine List.forall_mem_flatMap.mpr fun b _ => ?_
  have h1 := hexVal_hexChar (b / 16 % 16) (Nat.mod_lt _ (by omega))
  have h2 := hexVal_hexChar (b % 16) (Nat.mod_lt _ (by omega))
  simp [hexUp, isHex, h1, h2]

theorem plain_of_allHex {l : Bytes} (h : AllHex l) : Plain l := fun b hb =>
  ⟨fun e => absurd (e ▸ h b hb) (by decide), fun e => absurd (e ▸ h b hb) (by decide)⟩

theorem hexStr_cons (b : Nat) (bs : Bytes) :
    hexStr (b :: bs) = hexChar (b / 16 % 16) :: hexChar (b % 16) :: hexStr bs := rfl

theorem hexStr_length (bs : Bytes) : (hexStr bs).length = 2 * bs.length := by
  induction bs with
  | nil => rfl
  | cons b bs ih => simp only [hexStr_cons, List.length_cons, ih]; omega

theorem hexDecode_hexStr (bs : Bytes) (hb : AllBytes bs) : hexDecode (hexStr bs) = some bs := by
  induction bs with
  | nil => rfl
  | cons b bs ih =>
    have : b < 256 := hb b (by simp)
    rw [hexStr_cons, hexDecode, hexVal_hexChar _ (Nat.mod_lt _ (by omega)), hexVal_hexChar _ (Nat.mod_lt _ (by omega)),
      ih fun x hx => hb x (by simp [hx])]
    simp only [Option.map_some]
    congr 2; omega

theorem scanHex_hexStr (bs : Bytes) (hne : bs ≠ []) (hb : AllBytes bs) : scanHex (hexStr bs) = some bs := by
  cases bs with
  | nil => exact absurd rfl hne
  | cons b r => rw [scanHex, hexStr_cons, if_neg (List.cons_ne_nil _ _), ← hexStr_cons, hexDecode_hexStr _ hb]

theorem hexDecode_some {l bs : Bytes} (h : hexDecode l = some bs) : AllHex l ∧ l.length = 2 * bs.length := by
  fun_induction hexDecode l generalizing bs with
  | case1 => cases h; exact ⟨fun _ hb => (nomatch hb), rfl⟩
  | case2 => cases h
  | case3 => cases h
  | case4 => cases h
  | case5 c1 c2 r v1 e1 v2 e2 ih =>
    obtain ⟨t, ht, rfl⟩ := Option.map_eq_some_iff.mp h
    have ⟨ha, hl⟩ := ih ht
    refine ⟨List.forall_mem_cons.mpr ⟨by simp [isHex, e1], List.forall_mem_cons.mpr ⟨by simp [isHex, e2], ha⟩⟩, ?_⟩
    simp only [List.length_cons, hl]; omega

theorem scanHex_some {l bs : Bytes} (h : scanHex l = some bs) :
    AllHex l ∧ l.length = 2 * bs.length ∧ bs ≠ [] := by
  unfold scanHex at h
  by_cases hl : l = []
  · simp [hl] at h
  · rw [if_neg hl] at h
    have ⟨h1, h2⟩ := hexDecode_some h
    exact ⟨h1, h2, fun hb => hl (List.length_eq_zero_iff.mp (by rw [h2, hb]; rfl))⟩

theorem scanHex_none_of_odd (l : Bytes) (h : l.length % 2 = 1) : scanHex l = none := by
  cases e : scanHex l with
  | none => rfl
  | some bs => have := (scanHex_some e).2.1; omega

theorem scanHex_none_of_nonhex (l : Bytes) (c : Nat) (hc : isHex c = false) (hm : c ∈ l) : scanHex l = none := by
  cases e : scanHex l with
  | none => rfl
  | some bs => have := (scanHex_some e).1 c hm; simp [hc] at this

theorem all_isDigit_natDecF (f n : Nat) : (natDecF f n).all isDigit = true := by
  induction f generalizing n with
  | zero => simp [natDecF, isDigit]; omega
  | succ f ih =>
    unfold natDecF
    by_cases h : n < 10
    · simp [h, isDigit]; omega
    · simp [h, ih, isDigit]; omega

theorem natDecF_ne_nil (f n : Nat) : natDecF f n ≠ [] := by
  cases f with
  | zero => simp [natDecF]
  | succ f =>
    unfold natDecF
    by_cases h : n < 10 <;> simp [h]

theorem digitsVal_natDecF (f n : Nat) (h : n < 10 ^ (f + 1)) : digitsVal (natDecF f n) = n := by
  induction f generalizing n with
  | zero => simp [natDecF, digitsVal]; omega
  | succ f ih =>
    unfold natDecF
    by_cases h10 : n < 10
    · simp [h10, digitsVal]
    · have hq : n / 10 < 10 ^ (f + 1) := Nat.div_lt_of_lt_mul (by rw [Nat.pow_succ, Nat.mul_comm] at h; exact h)
      have := ih _ hq
      simp only [digitsVal] at this ⊢
      simp only [h10, if_false, List.foldl_append, List.foldl_cons, List.foldl_nil, this]
      omega

theorem plain_of_all_isDigit {l : Bytes} (h : l.all isDigit = true) : Plain l := fun b hb =>
  have := List.all_eq_true.mp h b hb
  ⟨fun e => absurd (e ▸ this) (by decide), fun e => absurd (e ▸ this) (by decide)⟩

theorem plain_decimal (i : Int) : Plain (decimal i) := by
  unfold decimal natDec
  split
  · exact plain_cons.mpr ⟨by decide, plain_of_all_isDigit (all_isDigit_natDecF _ _)⟩
  · exact plain_of_all_isDigit (all_isDigit_natDecF _ _)

theorem parseInt_digits {ds : Bytes} (hne : ds ≠ []) (hd : ds.all isDigit = true) :
    parseInt ds = if (digitsVal ds : Int) ≤ 2147483647 then some (digitsVal ds : Int) else none := by
  cases ds with
  | nil => exact absurd rfl hne
  | cons c r =>
    have hc : 48 ≤ c ∧ c ≤ 57 := by simpa [isDigit] using List.all_eq_true.mp hd c (by simp)
    have h45 : c ≠ 45 := by omega
    have h43 : c ≠ 43 := by omega
    simp only [parseInt, h45, h43, or_self, if_false, hd, if_true, reduceCtorEq]
    congr 1
    exact propext ⟨fun h => h.2, fun h => ⟨by omega, h⟩⟩

theorem parseInt_neg_digits {ds : Bytes} (hne : ds ≠ []) (hd : ds.all isDigit = true) :
    parseInt (45 :: ds) = if (digitsVal ds : Int) ≤ 2147483648 then some (-(digitsVal ds : Int)) else none := by
  simp only [parseInt, true_or, if_true, hne, if_false, hd]
  congr 1
  exact propext ⟨fun h => by omega, fun h => ⟨by omega, by omega⟩⟩

theorem parseInt_decimal (i : Int) (h : Int32Range i) : parseInt (decimal i) = some i := by
  have ⟨h1, h2⟩ := h
  unfold decimal natDec
  by_cases hneg : i < 0
  · rw [if_pos hneg, parseInt_neg_digits (natDecF_ne_nil _ _) (all_isDigit_natDecF _ _),
      digitsVal_natDecF _ _ (by omega), if_pos (by omega)]
    congr 1; omega
  · rw [if_neg hneg, parseInt_digits (natDecF_ne_nil _ _) (all_isDigit_natDecF _ _),
      digitsVal_natDecF _ _ (by omega), if_pos (by omega)]
    congr 1; omega

/-- one round of the loop of `Read` on the byte `b`: return (`.inl`), or go on in a new state (`.inr`) -/
def step (b : Nat) (st : St) : Except ErrKind (Int × Bytes) ⊕ St :=
  if b = 32 then
    if st.deltaRead then .inl (.error .sep)
    else match parseInt st.deltaBf with
      | none => .inl (.error .delta)
      | some d => .inr { st with deltams := d, deltaRead := true }
  else if b = 10 then .inl (.ok (st.deltams, st.out))
  else if st.deltaRead then .inr { st with out := st.out ++ [b] }
  else .inr { st with deltaBf := st.deltaBf ++ [b] }

/-- the loop body that `readLoop` and `readLoopS` share is `step`, whatever is done on return (`ret`) and on
    going on (`go`) -/
theorem body_eq_step {α : Type} (b : Nat) (st : St) (ret : Except ErrKind (Int × Bytes) → α) (go : St → α) :
    (if b = 32 then
      if st.deltaRead then ret (.error .sep)
      else match parseInt st.deltaBf with
        | none => ret (.error .delta)
        | some d => go { st with deltams := d, deltaRead := true }
    else if b = 10 then ret (.ok (st.deltams, st.out))
    else if st.deltaRead then go { st with out := st.out ++ [b] }
    else go { st with deltaBf := st.deltaBf ++ [b] }) =
    match step b st with
      | .inl r => ret r
      | .inr st' => go st' := by
  rw [step]
  by_cases h32 : b = 32
  · rw [if_pos h32, if_pos h32]
    cases st.deltaRead
    · cases parseInt st.deltaBf <;> rfl
    · rfl
  · rw [if_neg h32, if_neg h32]
    by_cases h10 : b = 10
    · rw [if_pos h10, if_pos h10]
    · rw [if_neg h10, if_neg h10]
      cases st.deltaRead <;> rfl

theorem readLoop_cons (b : Nat) (rest : Bytes) (st : St) :
    readLoop (b :: rest) st = match step b st with
      | .inl r => (r, rest)
      | .inr st' => readLoop rest st' := by
  rw [readLoop]; exact body_eq_step b st (·, rest) (readLoop rest)

theorem step_plain {b : Nat} (h : b ≠ 32 ∧ b ≠ 10) (dr : Bool) (bf out : Bytes) (ms : Int) :
    step b ⟨dr, bf, out, ms⟩ = .inr (bif dr then ⟨dr, bf, out ++ [b], ms⟩ else ⟨dr, bf ++ [b], out, ms⟩) := by
  rw [step, if_neg h.1, if_neg h.2]
  cases dr <;> rfl

theorem readLoop_plain (xs rest : Bytes) (hx : Plain xs) (dr : Bool) (bf out : Bytes) (ms : Int) :
    readLoop (xs ++ rest) ⟨dr, bf, out, ms⟩ =
      readLoop rest (bif dr then ⟨dr, bf, out ++ xs, ms⟩ else ⟨dr, bf ++ xs, out, ms⟩) := by
  induction xs generalizing bf out with
  | nil => cases dr <;> simp
  | cons b xs ih =>
    have ⟨hb, hx⟩ := plain_cons.mp hx
    rw [List.cons_append, readLoop_cons, step_plain hb]
    cases dr <;> simp [ih hx]

theorem readLoop_eof (a : Bytes) (ha : Plain a) (st : St) : readLoop a st = (.error .read, []) := by
  have := readLoop_plain a [] ha st.1 st.2 st.3 st.4
  rwa [List.append_nil] at this

theorem readLoop_blank (a rest : Bytes) (ha : Plain a) :
    readLoop (a ++ 32 :: rest) {} = match parseInt a with
      | none => (.error .delta, rest)
      | some d => readLoop rest ⟨true, a, [], d⟩ := by
  rw [readLoop_plain a _ ha, cond_false, readLoop_cons, step, if_pos rfl, if_neg Bool.false_ne_true, List.nil_append]
  cases parseInt a <;> rfl

theorem readLoop_framing (l rest : Bytes) (st : St) :
    readLoop (l ++ 10 :: rest) st = ((readLoop (l ++ [10]) st).1, (readLoop (l ++ [10]) st).2 ++ rest) := by
  induction l generalizing st with
  | nil => rfl
  | cons b l ih =>
    simp only [List.cons_append, readLoop_cons]
    cases step b st with
    | inl r => simp
    | inr st' => exact ih st'

theorem plain_split (inp : Bytes) :
    ∃ a, Plain a ∧ (inp = a ∨ ∃ rest, inp = a ++ 32 :: rest ∨ inp = a ++ 10 :: rest) := by
  induction inp with
  | nil => exact ⟨[], plain_nil, .inl rfl⟩
  | cons b l ih =>
    by_cases h32 : b = 32
    · exact ⟨[], plain_nil, .inr ⟨l, .inl (h32 ▸ rfl)⟩⟩
    · by_cases h10 : b = 10
      · exact ⟨[], plain_nil, .inr ⟨l, .inr (h10 ▸ rfl)⟩⟩
      · obtain ⟨a, ha, rfl | ⟨rest, rfl | rfl⟩⟩ := ih
        · exact ⟨b :: _, plain_cons.mpr ⟨⟨h32, h10⟩, ha⟩, .inl rfl⟩
        · exact ⟨b :: a, plain_cons.mpr ⟨⟨h32, h10⟩, ha⟩, .inr ⟨rest, .inl rfl⟩⟩
        · exact ⟨b :: a, plain_cons.mpr ⟨⟨h32, h10⟩, ha⟩, .inr ⟨rest, .inr rfl⟩⟩

/-- everything `Read` makes of a stream (result, bytes left), by the place of the first blanks and newline:
    end of stream, no separator, bad time field, end of stream in the hex field, second blank, a line -/
inductive Outcome : Bytes → Except ErrKind (Int × Bytes) × Bytes → Prop
  | eof {a} : Plain a → Outcome a (.error .read, [])
  | noSep {a rest} : Plain a → Outcome (a ++ 10 :: rest) (.ok (0, []), rest)
  | badTime {a rest} : Plain a → parseInt a = none → Outcome (a ++ 32 :: rest) (.error .delta, rest)
  | eofHex {a h d} : Plain a → parseInt a = some d → Plain h → Outcome (a ++ 32 :: h) (.error .read, [])
  | sep {a h d rest} : Plain a → parseInt a = some d → Plain h →
      Outcome (a ++ 32 :: (h ++ 32 :: rest)) (.error .sep, rest)
  | line {a h d rest} : Plain a → parseInt a = some d → Plain h →
      Outcome (a ++ 32 :: (h ++ 10 :: rest)) (.ok (d, h), rest)

theorem Outcome.eq {inp r} (h : Outcome inp r) : readLoop inp {} = r := by
  cases h with
  | eof ha => exact readLoop_eof _ ha _
  | noSep ha =>
    rw [readLoop_plain _ _ ha]
    rfl
  | badTime ha hd => rw [readLoop_blank _ _ ha, hd]
  | eofHex ha hd hh =>
    rw [readLoop_blank _ _ ha, hd]
    exact readLoop_eof _ hh _
  | sep ha hd hh =>
    rw [readLoop_blank _ _ ha, hd]
    dsimp only
    rw [readLoop_plain _ _ hh]
    rfl
  | line ha hd hh =>
    rw [readLoop_blank _ _ ha, hd]
    dsimp only
    rw [readLoop_plain _ _ hh]
    rfl

theorem outcome_readLoop (inp : Bytes) : Outcome inp (readLoop inp {}) := by
  suffices ∃ r, Outcome inp r from let ⟨r, h⟩ := this; h.eq ▸ h
  obtain ⟨a, ha, rfl | ⟨rest, rfl | rfl⟩⟩ := plain_split inp
  · exact ⟨_, .eof ha⟩
  · cases hd : parseInt a with
    | none => exact ⟨_, .badTime ha hd⟩
    | some d =>
      obtain ⟨h, hh, rfl | ⟨rest, rfl | rfl⟩⟩ := plain_split rest
      · exact ⟨_, .eofHex ha hd hh⟩
      · exact ⟨_, .sep ha hd hh⟩
      · exact ⟨_, .line ha hd hh⟩
  · exact ⟨_, .noSep ha⟩

/-- a record of the property's domain: `int32` time stamp, at least one message byte, bytes < 256 -/
def RecOK (r : Int × Bytes) : Prop := Int32Range r.1 ∧ r.2 ≠ [] ∧ AllBytes r.2

/-- what `ReadAndConvert` makes of the result of `Read` -/
def conv : Except ErrKind (Int × Bytes) → Res
  | .error k => .err k
  | .ok (d, out) => match scanHex out with
    | none => .err .hex
    | some bs => .ok d bs

theorem readAndConvert_eq (inp : Bytes) :
    readAndConvert inp = (conv (readLoop inp {}).1, (readLoop inp {}).2) := by
  unfold readAndConvert
  rcases readLoop inp {} with ⟨_ | ⟨d, out⟩, rest⟩
  · rfl
  · simp only [conv]; cases scanHex out <;> rfl

theorem Outcome.readAndConvert {inp r rest} (h : Outcome inp (r, rest)) : readAndConvert inp = (conv r, rest) := by
  rw [readAndConvert_eq, h.eq]

theorem readMany_succ (n : Nat) (inp mid : Bytes) (r : Res) (h : readAndConvert inp = (r, mid)) :
    readMany (n + 1) inp = (r :: (readMany n mid).1, (readMany n mid).2) := by
  simp only [readMany, h]

theorem Src.read_one (b : Nat) (r : Bytes) (fr : List Nat) (e : Bool) :
    (∃ fs, fr = 0 :: fs ∧ Src.read ⟨b :: r, fr, e⟩ 1 = ([], false, ⟨b :: r, fs, e⟩)) ∨
    (∃ e' fr', Src.read ⟨b :: r, fr, e⟩ 1 = ([b], e', ⟨r, fr', e⟩)) := by
  unfold Src.read
  rw [if_neg (List.cons_ne_nil _ _)]
  match fr with
  | [] => exact .inr ⟨_, _, rfl⟩
  | 0 :: fs => exact .inl ⟨fs, rfl, rfl⟩
  | (f + 1) :: fs =>
    have : min 1 (min (f + 1) (r.length + 1)) = 1 := by omega
    exact .inr ⟨_, _, by
      dsimp only
      rw [if_neg (Nat.succ_ne_zero f), List.length_cons, this]
      rfl⟩

theorem read1_nil (fuel : Nat) (s : Src) (h : s.data = []) : read1 (fuel + 1) s = (none, s) := by
  simp [read1, Src.read, h]

theorem read1_cons (fuel : Nat) (s : Src) (b : Nat) (r : Bytes) (h : s.data = b :: r)
    (hf : s.frags.length < fuel) : ∃ s', read1 fuel s = (some b, s') ∧ s'.data = r := by
  obtain ⟨data, fr, e⟩ := s
  subst h
  induction fuel generalizing fr with
  | zero => omega
  | succ fuel ih =>
    rw [read1]
    rcases Src.read_one b r fr e with ⟨fs, rfl, h⟩ | ⟨e', fr', h⟩
    · rw [h]; exact ih fs (by simpa using hf)
    · rw [h]; exact ⟨_, rfl, rfl⟩

theorem readLoopS_succ (fuel : Nat) (s : Src) (st : St) :
    readLoopS (fuel + 1) s st = match read1 (s.frags.length + 1) s with
      | (none, s') => (.error .read, s')
      | (some b, s') => match step b st with
        | .inl r => (r, s')
        | .inr st' => readLoopS fuel s' st' := by
  rw [readLoopS]
  rcases read1 (s.frags.length + 1) s with ⟨_ | b, s'⟩
  · rfl
  · exact body_eq_step b st (·, s') (readLoopS fuel s')

theorem readLoopS_eq (fuel : Nat) (s : Src) (st : St) (hfu : s.data.length < fuel) :
    ∃ s', readLoopS fuel s st = ((readLoop s.data st).1, s') ∧ s'.data = (readLoop s.data st).2 := by
  induction fuel generalizing s st with
  | zero => omega
  | succ fuel ih =>
    rw [readLoopS_succ]
    cases hd : s.data with
    | nil => rw [read1_nil _ s hd]; exact ⟨s, rfl, hd⟩
    | cons b r =>
      obtain ⟨s1, h1, rfl⟩ := read1_cons _ s b r hd (Nat.lt_succ_self _)
      rw [h1, readLoop_cons]; dsimp only
      cases step b st with
      | inl res => exact ⟨s1, rfl, rfl⟩
      | inr st' => exact ih s1 st' (by rw [hd] at hfu; simpa using hfu)

theorem readAndConvertS_eq (s : Src) :
    ∃ s', readAndConvertS s = ((readAndConvert s.data).1, s') ∧ s'.data = (readAndConvert s.data).2 := by
  obtain ⟨s', h1, h2⟩ := readLoopS_eq s.fuel s {} (Nat.lt_succ_self _)
  refine ⟨s', ?_, by rw [readAndConvert_eq, h2]⟩
  unfold readAndConvertS
  rw [h1, readAndConvert_eq]
  rcases readLoop s.data {} with ⟨_ | ⟨d, out⟩, rest⟩
  · rfl
  · simp only [conv]; cases scanHex out <;> rfl

end Midi.Midicat
