import MidiModel.Sysex
import MidiModel.Generated.SysexGo
import Proofs.Sysex
/-!
# C18, tie to the source: `Manufacturer.Checksum` and `Manufacturer.SysEx` as translated from `v2/sysex/sysex.go` are the
model's `checksum` and `build`; how the result of a translated parser renders the model's outcome
-/
namespace Midi.C18
open Midi Midi.Go Midi.Sysex

def toGo (s : Manufacturer) : sysex.Manufacturer :=
  { ManufacturerID := s.manu, DeviceID := s.dev, ModelID := s.model, InfoRequest := s.req,
    Address := [s.a0, s.a1, s.a2], SendingData := s.data, NumReqBytes := [s.n0, s.n1, s.n2] }

/-- the text of the translated `Checksum` from the loop on, the list to sum in `bt` -/
theorem code_Checksum_tail (bt : Bytes) :
    (do
      let __s ← forIn bt (0 : Int) fun (b : Nat) (__s : Int) =>
          (pure (ForInStep.yield (Go.wrapS 32 (__s + (b : Int)))) : Except String (ForInStep Int))
      if Int.tmod __s 128 = 0 then pure 0 else pure (Go.toU 8 (Go.wrapS 32 (128 - Int.tmod __s 128))) : Except String Nat)
    = .ok (cksumOf bt) := by
  rw [List.forIn_pure_yield_eq_foldl]
  -- the loop and the model's accumulator are both the signed wrap of the mathematical sum
  have h := Go.foldl_wrapS32 bt 0
  rw [show Go.wrapS 32 0 = 0 from rfl, Int.zero_add, ← sumI32_eq] at h
  rw [pure_bind, h]
  unfold cksumOf
  generalize sumI32 bt = su
  have hlo : -128 < Int.tmod su 128 := Int.lt_tmod_of_pos su (by decide)
  have hhi : Int.tmod su 128 < 128 := Int.tmod_lt_of_pos su (by decide)
  by_cases h0 : Int.tmod su 128 = 0
  · rw [if_pos h0, if_pos h0]
    rfl
  · rw [if_neg h0, if_neg h0, Go.wrapS_of_range 32 (by decide) _ (by omega) (by omega)]
    rfl

theorem code_Checksum (s : Manufacturer) : sysex.Manufacturer.Checksum (toGo s) = .ok (checksum s) := by
  unfold sysex.Manufacturer.Checksum checksum summed body
  cases hr : s.req
  · simp only [toGo, hr, go_eval, ↓reduceIte]
    exact code_Checksum_tail _
  · simp only [toGo, hr, go_eval, ↓reduceIte]
    exact code_Checksum_tail _

theorem code_SysEx (s : Manufacturer) : sysex.Manufacturer.SysEx (toGo s) = .ok (build s) := by
  have hc : sysex.Manufacturer.Checksum (toGo s) = pure (checksum s) := code_Checksum s
  unfold sysex.Manufacturer.SysEx build body
  cases hr : s.req
  · simp only [toGo, hr, go_eval, ↓reduceIte, ↓Go.bind_eq_of_pure hc, List.nil_append, List.cons_append,
      List.append_assoc, Bool.false_eq_true]
    rfl
  · simp only [toGo, hr, go_eval, ↓reduceIte, ↓Go.bind_eq_of_pure hc, List.nil_append, List.cons_append]
    rfl

/-- `len(bt)-1` and `len(bt)-2` in `int`: where the translated parsers read the end marker and the checksum and cut the
    payload -/
theorem len_sub (bt : Bytes) (h : 2 ≤ bt.length) (hlen : bt.length < 4611686018427387904) :
    Go.wrapS 64 ((bt.length : Int) - 1) = ((bt.length - 1 : Nat) : Int) ∧
    Go.wrapS 64 ((bt.length : Int) - 2) = ((bt.length - 2 : Nat) : Int) :=
  ⟨Go.wrapS64_sub (k := 1) (by omega) hlen, Go.wrapS64_sub (k := 2) (by omega) hlen⟩

/-! ## how a translated parser hands back the model's outcome

A Go parser returns the value and an error flag; an index out of range is a run-time error. The two maps stand here and
not beside `code_Parse`, `code_GoTo_Parse`, `code_Message_Parse`: a `match` of the same shape stated earlier in the same
module would lend its matcher to the statements of those theorems. -/

/-- `sysex.Parse` returns the zero value beside every error -/
def _root_.Midi.Sysex.PRes.toGo : PRes → Except String (sysex.Manufacturer × Bool)
  | .ok m => .ok (C18.toGo m, false)
  | .err _ => .ok ({}, true)
  | .panic => .error "index out of range"

/-- the `mmc` parsers return the receiver as far as it was written -/
def _root_.Midi.Sysex.MRes.toGo {α β : Type} (f : α → β) : MRes α → Except String (β × Bool)
  | .ok g => .ok (f g, false)
  | .err g => .ok (f g, true)
  | .panic => .error "index out of range"

end Midi.C18
