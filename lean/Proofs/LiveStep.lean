import MidiModel.Live
/-!
# The live decoder (`MidiModel/Live.lean`) byte class by byte class

`step` is written mode by mode, as `eachByte` is; here it is restated by the class of the byte: a real-time byte is handed
on, any other status byte drops whatever was in progress (`St.idle`) and is read by `cleanState`, a data byte is read
according to the mode. Every equation holds from ANY state and `byte_cases` lists the cases; the two leaves left out (the
`panic` of `withinChan`, the idle one of `syscStep`) are those the invariant of `Proofs/LiveInv.lean` rules out.
-/
namespace Midi.Live

theorem feed_nil (c : Cfg) (s : St) : feed c s [] = (s, []) := rfl

theorem feed_cons (c : Cfg) (s : St) (t : Tok) (r : List Tok) :
    feed c s (t :: r) = ((feed c (stepTok c s t).1 r).1, (stepTok c s t).2 ++ (feed c (stepTok c s t).1 r).2) := rfl

theorem feed_append (c : Cfg) (s : St) (xs ys : List Tok) :
    feed c s (xs ++ ys) = ((feed c (feed c s xs).1 ys).1, (feed c s xs).2 ++ (feed c (feed c s xs).1 ys).2) := by
  induction xs generalizing s with
  | nil => simp [feed]
  | cons t ts ih => simp only [List.cons_append, feed, ih, List.append_assoc]

theorem step_rt (c : Cfg) (s : St) (b : Nat) (h : 0xF8 ≤ b) : step c s b = (s, [([b], s.ts)]) := by
  simp only [step, h, if_true]

theorem step_clean (c : Cfg) (s : St) (b : Nat) (hb : b < 0xF8) (hm : s.mode = .clean) :
    step c s b = cleanState s b := by
  have h : ¬ 0xF8 ≤ b := by omega
  simp [step, h, hm]

theorem step_sysex (c : Cfg) (s : St) (b : Nat) (hb : b < 0xF8) (hm : s.mode = .sysex) :
    step c s b = sysexStep c s b := by
  have h : ¬ 0xF8 ≤ b := by omega
  simp [step, h, hm]

theorem step_unknown (c : Cfg) (s : St) (b : Nat) (hb : b < 0xF8) (hm : s.mode = .unknown) :
    step c s b = if 0x80 ≤ b then cleanState { s with mode := .clean } b else (s, []) := by
  have h : ¬ 0xF8 ≤ b := by omega
  simp [step, h, hm]

theorem step_chan (c : Cfg) (s : St) (b : Nat) (hb : b < 0xF8) (hm : s.mode = .chan) :
    step c s b = if 0x80 ≤ b then cleanState { s with pend := none, mode := .clean } b else withinChan s b := by
  have h : ¬ 0xF8 ≤ b := by omega
  by_cases h8 : 0x80 ≤ b <;> simp [step, h, hm, h8]

theorem step_sysc (c : Cfg) (s : St) (b : Nat) (hb : b < 0xF8) (hm : s.mode = .sysc) :
    step c s b = if 0x80 ≤ b then cleanState { s with pend := none, mode := .clean } b else syscStep s b := by
  have h : ¬ 0xF8 ≤ b := by omega
  by_cases h8 : 0x80 ≤ b <;> simp [step, h, hm, h8]

theorem cleanState_chanStatus (s : St) (b : Nat) (h1 : 0x80 ≤ b) (h2 : b ≤ 0xEF) :
    cleanState s b = ({ s with status := b, pend := none, typ := b / 16, mode := .chan }, []) := by
  rw [cleanState, if_neg (by omega), if_neg (by omega), if_neg (by omega), if_pos ⟨h1, h2⟩]

theorem cleanState_syscStatus (s : St) (b : Nat) (h : b = 0xF1 ∨ b = 0xF2 ∨ b = 0xF3) :
    cleanState s b = ({ s with status := 0, pend := none, mode := .sysc, typ := b }, []) := by
  rw [cleanState, if_neg (by omega), if_neg (by omega), if_pos (by omega), if_pos h]

theorem cleanState_undefined (s : St) (b : Nat) (h : b = 0xF4 ∨ b = 0xF5) :
    cleanState s b = ({ s with status := 0, pend := none, mode := .unknown }, []) := by
  rw [cleanState, if_neg (by omega), if_neg (by omega), if_pos (by omega), if_neg (by omega), if_neg (by omega)]

theorem cleanState_tune (s : St) :
    cleanState s 0xF6 = ({ s with status := 0, pend := none }, [([0xF6, 0, 0], s.ts)]) := by
  simp [cleanState]

theorem cleanState_sxStart (s : St) :
    cleanState s 0xF0 = ({ s with status := 0, sx := [0xF0], sxTs := s.ts, mode := .sysex }, []) := by
  simp [cleanState]

theorem cleanState_sxEnd (s : St) :
    cleanState s 0xF7 = ({ s with sx := [], status := 0 }, [([0xF7, 0, 0], s.ts)]) := by
  simp [cleanState]

theorem cleanState_data (s : St) (b : Nat) (h : b < 0x80) :
    cleanState s b = if s.status ≠ 0 then withinChan { s with mode := .chan } b else (s, []) := by
  rw [cleanState, if_neg (by omega), if_neg (by omega), if_neg (by omega), if_neg (by omega)]

theorem status_cases {b : Nat} (h1 : 0x80 ≤ b) (h2 : b < 0xF8) :
    (0x80 ≤ b ∧ b ≤ 0xEF) ∨ (b = 0xF1 ∨ b = 0xF2 ∨ b = 0xF3) ∨ (b = 0xF4 ∨ b = 0xF5) ∨ b = 0xF6 ∨ b = 0xF0 ∨
      b = 0xF7 := by omega

/-- the status nibbles of the channel messages with two data bytes -/
def TwoData (typ : Nat) : Prop := typ = 0xB ∨ typ = 0x9 ∨ typ = 0x8 ∨ typ = 0xA ∨ typ = 0xE

theorem withinChan_only (s : St) (b : Nat) (h : s.typ = 0xD ∨ s.typ = 0xC) :
    withinChan s b = ({ s with pend := none, mode := .clean }, [([s.status, b, 0], s.ts)]) := by
  simp only [withinChan, if_pos h]

theorem withinChan_first (s : St) (b : Nat) (h : TwoData s.typ) (hp : s.pend = none) :
    withinChan s b = ({ s with pend := some b }, []) := by
  unfold TwoData at h
  simp only [withinChan, if_neg (show ¬ (s.typ = 0xD ∨ s.typ = 0xC) by omega), if_pos h, hp]

theorem withinChan_second (s : St) (x b : Nat) (h : TwoData s.typ) (hp : s.pend = some x) :
    withinChan s b = ({ s with pend := none, mode := .clean }, [([s.status, x, b], s.ts)]) := by
  unfold TwoData at h
  simp only [withinChan, if_neg (show ¬ (s.typ = 0xD ∨ s.typ = 0xC) by omega), if_pos h, hp]

theorem syscStep_only (s : St) (b : Nat) (h : s.typ = 0xF1 ∨ s.typ = 0xF3) :
    syscStep s b = ({ s with pend := none, mode := .clean }, [([s.typ, b, 0], s.ts)]) := by
  simp only [syscStep, if_pos h]

theorem syscStep_first (s : St) (b : Nat) (h : s.typ = 0xF2) (hp : s.pend = none) :
    syscStep s b = ({ s with pend := some b }, []) := by
  simp only [syscStep, if_neg (show ¬ (s.typ = 0xF1 ∨ s.typ = 0xF3) by omega), if_pos h, hp]

theorem syscStep_second (s : St) (x b : Nat) (h : s.typ = 0xF2) (hp : s.pend = some x) :
    syscStep s b = ({ s with pend := none, mode := .clean }, [([0xF2, x, b], s.ts)]) := by
  simp only [syscStep, if_neg (show ¬ (s.typ = 0xF1 ∨ s.typ = 0xF3) by omega), if_pos h, hp]

theorem sysexStep_start (c : Cfg) (s : St) :
    sysexStep c s 0xF0 = ({ s with status := 0, sx := [0xF0], sxTs := s.ts }, []) := by
  simp [sysexStep]

/-- the closing `F7` hands on the collected sysex unless the option is off, the buffer was dropped after an
    overflow (`sx = []`), or it is full -/
theorem sysexStep_end (c : Cfg) (s : St) :
    sysexStep c s 0xF7 = ({ s with mode := .clean, sx := [] },
      if c.sysex ∧ s.sx ≠ [] ∧ s.sx.length < c.bufSize then [(s.sx ++ [0xF7], s.sxTs)] else []) := by
  simp [sysexStep]

theorem sysexStep_status (c : Cfg) (s : St) (b : Nat) (h : 0x80 ≤ b) (h0 : b ≠ 0xF0) (h7 : b ≠ 0xF7) :
    sysexStep c s b = cleanState { s with sx := [], mode := .clean } b := by
  simp only [sysexStep, if_neg h0, if_neg h7, if_pos h]

theorem sysexStep_data (c : Cfg) (s : St) (b : Nat) (h : b < 0x80) :
    sysexStep c s b =
      ({ s with sx := if c.sysex ∧ s.sx ≠ [] then (if s.sx.length < c.bufSize then s.sx ++ [b] else []) else s.sx },
       []) := by
  rw [sysexStep, if_neg (by omega), if_neg (by omega), if_neg (by omega)]
  split
  · split <;> rfl
  · rfl

/-- what a status byte (not real-time) finds: an incomplete channel / system common message or sysex is
    dropped, the decoder is between messages. The two `if`s make `step_status` exact also from states no byte
    stream reaches (a pending byte or a buffer outside their modes). -/
def St.idle (s : St) : St :=
  { s with mode := .clean
           pend := if s.mode = .chan ∨ s.mode = .sysc then none else s.pend
           sx := if s.mode = .sysex then [] else s.sx }

theorem St.idle_sx (s : St) (x : Bytes) :
    ({ s with sx := x } : St).idle = { s.idle with sx := if s.mode = .sysex then [] else x } := rfl

theorem step_status (c : Cfg) (s : St) (b : Nat) (h1 : 0x80 ≤ b) (h2 : b < 0xF8) (h7 : b = 0xF7 → s.mode ≠ .sysex) :
    step c s b = cleanState s.idle b := by
  obtain ⟨mode, status, typ, pend, sx, sxTs, ts, panicked⟩ := s
  cases mode
  · rw [step_clean c _ b h2 rfl]
    rfl
  · rw [step_chan c _ b h2 rfl, if_pos h1]
    rfl
  · rw [step_sysc c _ b h2 rfl, if_pos h1]
    rfl
  · rw [step_sysex c _ b h2 rfl]
    by_cases h0 : b = 0xF0
    · subst h0
      rw [sysexStep_start, cleanState_sxStart]
      rfl
    · rw [sysexStep_status c _ b h1 h0 (fun h => h7 h rfl)]
      rfl
  · rw [step_unknown c _ b h2 rfl, if_pos h1]
    rfl

theorem step_chan_data (c : Cfg) (s : St) (d : Nat) (hm : s.mode = .chan) (hd : d < 0x80) :
    step c s d = withinChan s d := by
  rw [step_chan c s d (by omega) hm, if_neg (by omega)]

theorem step_sysc_data (c : Cfg) (s : St) (d : Nat) (hm : s.mode = .sysc) (hd : d < 0x80) :
    step c s d = syscStep s d := by
  rw [step_sysc c s d (by omega) hm, if_neg (by omega)]

theorem step_unknown_data (c : Cfg) (s : St) (d : Nat) (hm : s.mode = .unknown) (hd : d < 0x80) :
    step c s d = (s, []) := by
  rw [step_unknown c s d (by omega) hm, if_neg (by omega)]

theorem step_clean_data (c : Cfg) (s : St) (d : Nat) (hm : s.mode = .clean) (hd : d < 0x80) :
    step c s d = if s.status ≠ 0 then withinChan { s with mode := .chan } d else (s, []) := by
  rw [step_clean c s d (by omega) hm, cleanState_data s d hd]

theorem step_sysex_data (c : Cfg) (s : St) (d : Nat) (hm : s.mode = .sysex) (hd : d < 0x80) :
    step c s d =
      ({ s with sx := if c.sysex ∧ s.sx ≠ [] then (if s.sx.length < c.bufSize then s.sx ++ [d] else []) else s.sx },
       []) := by
  rw [step_sysex c s d (by omega) hm, sysexStep_data c s d hd]

theorem step_sysex_end (c : Cfg) (s : St) (hm : s.mode = .sysex) :
    step c s 0xF7 = ({ s with mode := .clean, sx := [] },
      if c.sysex ∧ s.sx ≠ [] ∧ s.sx.length < c.bufSize then [(s.sx ++ [0xF7], s.sxTs)] else []) := by
  rw [step_sysex c s 0xF7 (by omega) hm, sysexStep_end]

theorem byte_cases (s : St) (b : Nat) :
    0xF8 ≤ b ∨ (b = 0xF7 ∧ s.mode = .sysex) ∨ (0x80 ≤ b ∧ b < 0xF8 ∧ (b = 0xF7 → s.mode ≠ .sysex)) ∨
      (b < 0x80 ∧ (s.mode = .clean ∨ s.mode = .chan ∨ s.mode = .sysc ∨ s.mode = .sysex ∨ s.mode = .unknown)) := by
  by_cases hrt : 0xF8 ≤ b
  · exact Or.inl hrt
  by_cases hst : 0x80 ≤ b
  · by_cases h7 : b = 0xF7 ∧ s.mode = .sysex
    · exact Or.inr (Or.inl h7)
    · exact Or.inr (Or.inr (Or.inl ⟨hst, by omega, fun e hm => h7 ⟨e, hm⟩⟩))
  · refine Or.inr (Or.inr (Or.inr ⟨by omega, ?_⟩))
    cases s.mode <;> simp

/-- what a byte below `F8` makes the reader hand over, the `F7` that closes a sysex apart: nothing, or one three-byte frame
    at the clock `t` of that byte -/
def Frame3 (t : Int) (fs : List Frame) : Prop := fs = [] ∨ ∃ x y z, fs = [([x, y, z], t)]

theorem withinChan_shape (s : St) (b : Nat) : (withinChan s b).1.ts = s.ts ∧ Frame3 s.ts (withinChan s b).2 := by
  unfold withinChan
  split
  · exact ⟨rfl, Or.inr ⟨_, _, _, rfl⟩⟩
  · split
    · split
      · exact ⟨rfl, Or.inr ⟨_, _, _, rfl⟩⟩
      · exact ⟨rfl, Or.inl rfl⟩
    · exact ⟨rfl, Or.inl rfl⟩

theorem syscStep_shape (s : St) (b : Nat) : (syscStep s b).1.ts = s.ts ∧ Frame3 s.ts (syscStep s b).2 := by
  unfold syscStep
  split
  · exact ⟨rfl, Or.inr ⟨_, _, _, rfl⟩⟩
  · split
    · split
      · exact ⟨rfl, Or.inr ⟨_, _, _, rfl⟩⟩
      · exact ⟨rfl, Or.inl rfl⟩
    · exact ⟨rfl, Or.inl rfl⟩

theorem cleanState_status_shape (s : St) (b : Nat) (h1 : 0x80 ≤ b) (h2 : b < 0xF8) :
    (cleanState s b).1.ts = s.ts ∧ Frame3 s.ts (cleanState s b).2 := by
  rcases status_cases h1 h2 with hc | hs | hu | rfl | rfl | rfl
  · rw [cleanState_chanStatus s b hc.1 hc.2]
    exact ⟨rfl, Or.inl rfl⟩
  · rw [cleanState_syscStatus s b hs]
    exact ⟨rfl, Or.inl rfl⟩
  · rw [cleanState_undefined s b hu]
    exact ⟨rfl, Or.inl rfl⟩
  · rw [cleanState_tune]
    exact ⟨rfl, Or.inr ⟨_, _, _, rfl⟩⟩
  · rw [cleanState_sxStart]
    exact ⟨rfl, Or.inl rfl⟩
  · rw [cleanState_sxEnd]
    exact ⟨rfl, Or.inr ⟨_, _, _, rfl⟩⟩

/-- a sysex carries the clock of its `F0` (`sxTs`), every other frame the clock of the byte that completes it -/
theorem step_shape (c : Cfg) (s : St) (b : Nat) :
    (step c s b).1.ts = s.ts ∧
    ((0xF8 ≤ b ∧ (step c s b).2 = [([b], s.ts)]) ∨
     (b < 0xF8 ∧ Frame3 s.ts (step c s b).2) ∨
     (b = 0xF7 ∧ c.sysex = true ∧ s.sx ≠ [] ∧ (step c s b).2 = [(s.sx ++ [0xF7], s.sxTs)])) := by
  rcases byte_cases s b with hrt | ⟨rfl, hm⟩ | ⟨hst, hb, h7⟩ | ⟨hd, hm | hm | hm | hm | hm⟩
  · rw [step_rt c s b hrt]
    exact ⟨rfl, Or.inl ⟨hrt, rfl⟩⟩
  · rw [step_sysex_end c s hm]
    refine ⟨rfl, ?_⟩
    split
    · next h => exact Or.inr (Or.inr ⟨rfl, h.1, h.2.1, rfl⟩)
    · exact Or.inr (Or.inl ⟨by omega, Or.inl rfl⟩)
  · rw [step_status c s b hst hb h7]
    have h := cleanState_status_shape s.idle b hst hb
    exact ⟨h.1, Or.inr (Or.inl ⟨hb, h.2⟩)⟩
  · rw [step_clean_data c s b hm hd]
    split
    · have h := withinChan_shape { s with mode := .chan } b
      exact ⟨h.1, Or.inr (Or.inl ⟨by omega, h.2⟩)⟩
    · exact ⟨rfl, Or.inr (Or.inl ⟨by omega, Or.inl rfl⟩)⟩
  · rw [step_chan_data c s b hm hd]
    have h := withinChan_shape s b
    exact ⟨h.1, Or.inr (Or.inl ⟨by omega, h.2⟩)⟩
  · rw [step_sysc_data c s b hm hd]
    have h := syscStep_shape s b
    exact ⟨h.1, Or.inr (Or.inl ⟨by omega, h.2⟩)⟩
  · rw [step_sysex_data c s b hm hd]
    exact ⟨rfl, Or.inr (Or.inl ⟨by omega, Or.inl rfl⟩)⟩
  · rw [step_unknown_data c s b hm hd]
    exact ⟨rfl, Or.inr (Or.inl ⟨by omega, Or.inl rfl⟩)⟩

theorem step_ts (c : Cfg) (s : St) (b : Nat) : (step c s b).1.ts = s.ts := (step_shape c s b).1

theorem step_stamp_or_sysex (c : Cfg) (s : St) (b : Nat) :
    ∀ f ∈ (step c s b).2, f.2 = s.ts ∨ (b = 0xF7 ∧ c.sysex = true) := by
  intro f hf
  rcases (step_shape c s b).2 with ⟨_, e⟩ | ⟨_, e | ⟨x, y, z, e⟩⟩ | ⟨h7, hc, _⟩
  · rw [e, List.mem_singleton] at hf
    exact Or.inl (by rw [hf])
  · rw [e] at hf
    cases hf
  · rw [e, List.mem_singleton] at hf
    exact Or.inl (by rw [hf])
  · exact Or.inr ⟨h7, hc⟩

theorem step_stamp (c : Cfg) (s : St) (b : Nat) (hb : b ≠ 0xF7) : ∀ f ∈ (step c s b).2, f.2 = s.ts :=
  fun f hf => (step_stamp_or_sysex c s b f hf).resolve_right fun h => hb h.1

/-- with the sysex option off every frame carries the current clock (with it on, the sysex that `F7` closes carries
    the clock of its `F0`) -/
theorem step_stamp_off (c : Cfg) (hc : c.sysex = false) (s : St) (b : Nat) : ∀ f ∈ (step c s b).2, f.2 = s.ts :=
  fun f hf => (step_stamp_or_sysex c s b f hf).resolve_right fun h => Bool.false_ne_true (hc.symm.trans h.2)

theorem step_len (c : Cfg) (s : St) (b : Nat) (hb : b < 0xF8) : ∀ f ∈ (step c s b).2, 2 ≤ f.1.length := by
  intro f hf
  rcases (step_shape c s b).2 with ⟨h, _⟩ | ⟨_, e | ⟨x, y, z, e⟩⟩ | ⟨_, _, hne, e⟩
  · omega
  · rw [e] at hf
    cases hf
  · rw [e, List.mem_singleton] at hf
    rw [hf]
    simp
  · rw [e, List.mem_singleton] at hf
    rw [hf, List.length_append]
    exact Nat.add_le_add (List.length_pos_iff.mpr hne) (Nat.le_refl 1)

end Midi.Live
