import Proofs.StreamSim
import Proofs.StreamEq
import Proofs.Gram
/-!
# C09 — SMF reading does not depend on how the source delivers its bytes

`Stream.readFrom` is `smf.ReadFrom` written as a program over the stream primitives the Go code uses;
`srcOps` interprets it over a source that hands out the stream in arbitrary pieces (`cuts`: a `Read`
never crosses a cut point; every `Read` returns at least one byte or EOF), possibly returning the last
bytes together with EOF; `listOps` interprets it over in-memory bytes (`bytes.Reader`).
`(run ops p s).1 = .ok r`: the program ran to its end (no `Prog.fail`) with the value `r`; for `readFrom`, `r : Stream.Res` is
what `ReadFrom` returns, `.ok file` or `.error class`. `cvRes` (`Proofs/StreamEq.lean`) takes a result of `Smf.readFrom` to
`Stream.Res`: same file, same error class.
-/
namespace Midi.C09
open Midi Midi.Smf Midi.Stream

/-- Reading from any fragmenting source gives the same result — same value or same kind of failure —
    as reading the same bytes from memory: for every byte string (valid, truncated or garbage), every
    set of cut points, with or without data+EOF in one call. -/
theorem frag_indep (data : Bytes) (cuts : List Nat) (eofWithData : Bool) (fuel : Nat) :
    (run srcOps (readFrom fuel) ⟨data, 0, cuts, eofWithData, none, false⟩).1 = (run listOps (readFrom fuel) data).1 :=
  (run_sim (readFrom fuel) _ _ ⟨rfl, rfl, rfl⟩).1

/-- the same for every program over the primitives, together with the unread rest of the stream -/
theorem frag_indep_prog {α : Type} (p : Prog α) (data : Bytes) (pos : Nat) (cuts : List Nat) (eofWithData : Bool) :
    (run srcOps p ⟨data, pos, cuts, eofWithData, none, false⟩).1 = (run listOps p data).1 ∧
    (run srcOps p ⟨data, pos, cuts, eofWithData, none, false⟩).2.data = (run listOps p data).2 :=
  let h := run_sim p ⟨data, pos, cuts, eofWithData, none, false⟩ data ⟨rfl, rfl, rfl⟩
  ⟨h.1, h.2.1⟩

/-- primitive level: `io.ReadFull` over any fragmentation returns the same bytes / the same error
    class (`io.EOF` for nothing, `io.ErrUnexpectedEOF` for a part) and leaves the same rest -/
theorem readFull_frag (n : Nat) (s : Src) (h : s.fault = none ∧ s.hit = false) :
    (srcOps.readFull n s).1 = (listOps.readFull n s.data).1 ∧
    (srcOps.readFull n s).2.data = (listOps.readFull n s.data).2 :=
  let r := readFull_sim n s s.data ⟨rfl, h.1, h.2⟩
  ⟨r.1, r.2.1⟩

/-- every `Read` of the modelled source returns at least one byte while data is left (the quantifier
    of the property: readers that return at least one byte or an error per call) -/
theorem source_makes_progress (s : Src) (k : Nat) (hf : s.fault = none) (hh : s.hit = false) (hk : 1 ≤ k) (hd : s.data ≠ []) :
    1 ≤ (s.read k).1.length ∧ (s.read k).1.length ≤ k ∧ (s.read k).1 ++ (s.read k).2.2.data = s.data := by
  have hs : Sim s s.data := ⟨rfl, hf, hh⟩
  obtain ⟨a, e, hr, h1, h2, h3, _⟩ := read_open s k hs.not_blocked
  have hroom := hs.room
  have := h3 hk (by rw [hroom]; exact List.length_pos_iff.mpr hd)
  rw [hr]
  exact ⟨by simp only [List.length_take]; omega, by simp only [List.length_take]; omega, List.take_append_drop a s.data⟩

/-- the program reader over in-memory bytes IS the in-memory reader model of C01/C02/C05
    (`Smf.readFrom`): the two models of `smf.ReadFrom` agree on every byte string -/
theorem program_reader_is_list_reader (data : Bytes) (fuel : Nat) (hf : data.length + 2 ≤ fuel) :
    (run listOps (Stream.readFrom fuel) data).1 = .ok (cvRes (Smf.readFrom data)) :=
  readFrom_eq data fuel hf

/-- hence: reading through ANY fragmenting source gives what the in-memory reader model gives -/
theorem frag_reads_like_memory_model (data : Bytes) (cuts : List Nat) (eofWithData : Bool) :
    (run srcOps (Stream.readFrom (data.length + 2)) ⟨data, 0, cuts, eofWithData, none, false⟩).1
      = .ok (cvRes (Smf.readFrom data)) := by
  rw [frag_indep]; exact readFrom_eq data _ (Nat.le_refl _)

/-- and with C02: a valid SMF 1.0 file read through any fragmenting source decodes to its specified meaning -/
theorem frag_conforms (g : Gram.GFile) (h : g.Valid) (cuts : List Nat) (eofWithData : Bool) :
    (run srcOps (Stream.readFrom ((Gram.serialize g).length + 2)) ⟨Gram.serialize g, 0, cuts, eofWithData, none, false⟩).1
      = .ok (.ok (Gram.meaning g)) := by
  rw [frag_reads_like_memory_model, Gram.readFrom_serialize g h]; rfl

/-! An instance of `frag_indep`: a one-byte-per-call source with data+EOF, on a truncated file (no end-of-track, a
    dangling delta at the end). -/
def sampleFile : Bytes :=
  [0x4D, 0x54, 0x68, 0x64, 0, 0, 0, 6, 0, 0, 0, 1, 0, 0x60, 0x4D, 0x54, 0x72, 0x6B, 0, 0, 0, 8, 0, 0x90, 60, 64, 10, 62, 0, 0]

example : (run srcOps (readFrom 40) ⟨sampleFile, 0, List.range 40, true, none, false⟩).1
    = (run listOps (readFrom 40) sampleFile).1 := frag_indep _ _ _ _

end Midi.C09
