import Props.C15
import Props.C15_Ctor
import Props.C15_Get
/-!
# C15 on the translated code itself: constructor, then accessor

`smf.MetaX(args)` followed by `m.GetMetaX(&a, …)` (any of the pointers nil) — both as translated from the source —
returns `true` and leaves the arguments in exactly the variables behind the non-nil pointers: channel, port, SMPTE offset,
time signature (power-of-two denominators up to 128), meter, key signature (0..7 accidentals) and sequence number. (Texts,
sequencer data and tempo: the constructor side is tied in `C15_Ctor`, the accessor side goes through `bytes.NewReader` /
`binary.Write` / floats and stays differential.)
-/
namespace Midi.C15
open Midi Midi.Go Midi.Meta

-- `hn hc hq` say that the arguments are `uint8` values; the proofs do not use them
set_option linter.unusedVariables false

theorem code_roundtrip_MetaChannel (c : Nat) (cn : Bool) (c0 : Nat) :
    (smf.MetaChannel c >>= fun m => smf.Message.GetMetaChannel m cn c0) = .ok (true, sel cn c0 c) := by
  rw [code_MetaChannel, Go.ok_bind, code_GetMetaChannel, channel_roundtrip]

theorem code_roundtrip_MetaPort (p : Nat) (pn : Bool) (p0 : Nat) :
    (smf.MetaPort p >>= fun m => smf.Message.GetMetaPort m pn p0) = .ok (true, sel pn p0 p) := by
  rw [code_MetaPort, Go.ok_bind, code_GetMetaPort, port_roundtrip]

theorem code_roundtrip_MetaSMPTE (h mi s f ff : Nat) (n1 n2 n3 n4 n5 : Bool) (x1 x2 x3 x4 x5 : Nat) :
    (smf.MetaSMPTE h mi s f ff >>= fun m => smf.Message.GetMetaSMPTEOffsetMsg m n1 x1 n2 x2 n3 x3 n4 x4 n5 x5)
      = .ok (true, sel n1 x1 h, sel n2 x2 mi, sel n3 x3 s, sel n4 x4 f, sel n5 x5 ff) := by
  rw [code_MetaSMPTE, Go.ok_bind, code_GetMetaSMPTE, smpte_roundtrip]

theorem pow2_byte {e : Nat} (he : e ≤ 7) : 2 ^ e < 256 :=
  Nat.lt_of_le_of_lt (Nat.pow_le_pow_right (by decide) he) (by decide)

/-- byte 4 of the event (the stored denominator: the exponent `e`) is a byte, as `code_GetMetaTimeSig` asks -/
theorem timesig_denom_byte (n e c q : Nat) (he : e ≤ 7) :
    ∀ x, (metaTimeSig n (2 ^ e) c q)[4]? = some x → x < 256 := by
  rw [(timesig_roundtrip n e c q he).2]
  intro x hx
  simp [metaMessage, Vlq.encode_small] at hx
  omega

theorem code_roundtrip_MetaTimeSig (n e c q : Nat) (he : e ≤ 7) (hn : n < 256) (hc : c < 256) (hq : q < 256)
    (n1 n2 n3 n4 : Bool) (x1 x2 x3 x4 : Nat) :
    (smf.MetaTimeSig n (2 ^ e) c q >>= fun m => smf.Message.GetMetaTimeSig m n1 x1 n2 x2 n3 x3 n4 x4)
      = .ok (true, sel n1 x1 n, sel n2 x2 (2 ^ e), sel n3 x3 (if c = 0 then 8 else c), sel n4 x4 (if q = 0 then 8 else q)) := by
  rw [code_MetaTimeSig n (2 ^ e) c q (pow2_byte he), Go.ok_bind, code_GetMetaTimeSig _ (timesig_denom_byte n e c q he),
    (timesig_roundtrip n e c q he).1]

theorem code_roundtrip_MetaMeter (n e : Nat) (he : e ≤ 7) (hn : n < 256) (n1 n2 : Bool) (x1 x2 : Nat) :
    (smf.MetaMeter n (2 ^ e) >>= fun m => smf.Message.GetMetaMeter m n1 x1 n2 x2)
      = .ok (true, sel n1 x1 n, sel n2 x2 (2 ^ e)) := by
  have hpos : 2 ^ e ≠ 0 := Nat.ne_of_gt (Nat.two_pow_pos e)
  have hb : ∀ x, (metaMeter n (2 ^ e))[4]? = some x → x < 256 := by
    have := timesig_denom_byte n e 8 8 he
    simpa [metaMeter, hpos] using this
  rw [code_MetaMeter n (2 ^ e) (pow2_byte he), Go.ok_bind, code_GetMetaMeter _ hb, meter_roundtrip n e he]

theorem code_roundtrip_MetaKey (k n : Nat) (isMajor isFlat : Bool) (hn : n ≤ 7) (n1 n2 n3 n4 : Bool) (k0 u0 : Nat) (j0 f0 : Bool) :
    ∃ pc, Spec.tonic isMajor isFlat n = some pc ∧
      (smf.MetaKey k isMajor n isFlat >>= fun m => smf.Message.GetMetaKeySig m n1 k0 n2 u0 n3 j0 n4 f0)
        = .ok (true, sel n1 k0 pc, sel n2 u0 n, sel n3 j0 isMajor, sel n4 f0 (isFlat && n != 0)) := by
  obtain ⟨pc, hpc, hg⟩ := keysig_roundtrip k n isMajor isFlat hn
  refine ⟨pc, hpc, ?_⟩
  rw [code_MetaKey, Go.ok_bind, code_GetMetaKeySig, hg]

/-- byte 4 of the event (the low byte of the stored number) is a byte, as `code_GetMetaSeqNumber` asks -/
theorem seqno_low_byte (n : Nat) : ∀ x, (metaSequenceNo n)[4]? = some x → x < 256 := by
  intro x hx
  simp [metaSequenceNo, metaMessage, be16, Vlq.encode_small] at hx
  omega

theorem code_roundtrip_MetaSequenceNo (n : Nat) (h : n < 65536) (sn : Bool) (s0 : Nat) :
    (smf.MetaSequenceNo n >>= fun m => smf.Message.GetMetaSeqNumber m sn s0) = .ok (true, sel sn s0 n) := by
  rw [code_MetaSequenceNo, Go.ok_bind, code_GetMetaSeqNumber _ (seqno_low_byte n), seqno_roundtrip n h]

end Midi.C15
