import MidiModel.Sequencer
import MidiModel.Generated.SequencerGo
/-!
# C20, tie to the source: `Bar.Len` as translated from `v2/sequencer/bar.go` is the model's `Bar.len`

(the 8-bit bar arithmetic is the place the property's "why tests can't" names). `uint8` signature bytes: `n, d < 256`.
A zero denominator is Go's integer-divide-by-zero panic = the model's `none`.
-/
namespace Midi.C20
open Midi Midi.Go

theorem code_Bar_Len (b : Sequencer.Bar) (hn : b.num < 256) (hd : b.den < 256) :
    sequencer.Bar.Len { TimeSig := [b.num, b.den] } =
      (match Sequencer.Bar.len b with | some v => .ok v | none => .error "integer divide by zero") := by
  have h1 : b.num % 65536 = b.num := Nat.mod_eq_of_lt (Nat.lt_trans hn (by decide))
  have h2 : b.den % 65536 = b.den := Nat.mod_eq_of_lt (Nat.lt_trans hd (by decide))
  -- the two reads of `TimeSig` evaluate: what is left is the division
  show (Go.divU (b.num * 32 % 65536) b.den >>= fun q => pure (q % 256)) = _
  unfold Sequencer.Bar.len Go.divU
  rw [h1, h2]
  split <;> rfl

end Midi.C20
