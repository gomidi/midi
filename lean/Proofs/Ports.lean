import MidiModel.Ports
/-!
# Helper lemmas for C17: the testdrv machine refines the port contract on protocol-respecting histories
-/
namespace Midi.Ports

theorem St.trace_append (s : St) (a b : List Op) :
    St.trace s (a ++ b) = St.trace s a ++ St.trace (St.final s a) b := by
  induction a generalizing s with
  | nil => rfl
  | cons op r ih => simp [St.trace, St.final, ih]

theorem St.final_append (s : St) (a b : List Op) :
    St.final s (a ++ b) = St.final (St.final s a) b := by
  induction a generalizing s with
  | nil => rfl
  | cons op r ih => simp [St.final, ih]

theorem Spec.final_append (s : Spec) (a b : List Op) :
    Spec.final s (a ++ b) = Spec.final (Spec.final s a) b := by
  induction a generalizing s with
  | nil => rfl
  | cons op r ih => simp [Spec.final, ih]

theorem St.trace_length (s : St) (ops : List Op) : (St.trace s ops).length = ops.length := by
  induction ops generalizing s with
  | nil => rfl
  | cons op r ih => simp [St.trace, ih]

theorem step_refines (s : St) (op : Op) (h : allowed (abs s) op = true) :
    Spec.step (abs s) op = (abs (s.step op).1, (s.step op).2) := by
  obtain ⟨i, o, rd, st, n⟩ := s
  cases op with
  | openIn => rfl
  | openOut => rfl
  | closeOut => rfl
  | send m => cases o <;> cases st <;> cases rd <;> rfl
  | closeIn =>
    cases st with
    | true => cases rd <;> rfl
    | false =>
      cases rd with
      | none => rfl
      | some k => cases h      -- a listener is active: not allowed
  | listen =>
    cases i with
    | false => cases h         -- the in port is closed: not allowed
    | true =>
      cases st with
      | true => cases rd <;> rfl
      | false =>
        cases rd with
        | none => rfl
        | some k => cases h    -- a listener is active: not allowed
  | stop k =>
    -- every stop function of the driver sets the one flag and so ends whoever listens, the contract's ends listener `k`
    -- only: the same here, since by `h` (no stale stop function while a later listener is active) nobody else listens
    simp only [allowed, abs, Bool.and_eq_true, decide_eq_true_eq] at h
    obtain ⟨hk, h2⟩ := h
    cases st <;> cases rd <;> simp_all [Spec.step, St.step, abs]

theorem exec_refines (s : St) (op : Op) (h : allowed (abs s) op = true) :
    Spec.exec (abs s) op = (abs (s.exec op).1, (s.exec op).2) := by
  simp only [Spec.exec, St.exec, step_refines s op h]
  rfl

theorem trace_refines (s : St) (ops : List Op) (h : protocolOK (abs s) ops = true) :
    St.trace s ops = Spec.trace (abs s) ops ∧ abs (St.final s ops) = Spec.final (abs s) ops := by
  induction ops generalizing s with
  | nil => exact ⟨rfl, rfl⟩
  | cons op r ih =>
    simp only [protocolOK, Bool.and_eq_true] at h
    obtain ⟨h1, h2⟩ := h
    have e := exec_refines s op h1
    rw [e] at h2
    have := ih (s.exec op).1 h2
    simp only [St.trace, Spec.trace, St.final, Spec.final, e]
    exact ⟨by rw [this.1], this.2⟩

theorem step_send_fst (s : St) (n : Nat) : (s.step (.send n)).1 = s := by
  obtain ⟨i, o, rd, st, m⟩ := s
  cases o <;> cases st <;> cases rd <;> rfl

theorem listens_final (s : St) (ops : List Op) :
    (St.final s ops).listens = s.listens + countListens ops := by
  induction ops generalizing s with
  | nil => rfl
  | cons op r ih =>
    rw [St.final, ih]
    cases op with
    | listen => exact Nat.add_right_comm _ 1 _
    | send n => rw [St.exec, step_send_fst]; rfl
    | stop k => simp only [St.exec, St.step]; split <;> rfl
    | _ => rfl

theorem lastOutCall_final (s : St) (ops : List Op) :
    (St.final s ops).outOpen = (match lastOutCall ops with | some b => b | none => s.outOpen) := by
  induction ops generalizing s with
  | nil => rfl
  | cons op r ih =>
    simp only [St.final, lastOutCall]
    rw [ih]
    cases hl : lastOutCall r with
    | some b => rfl
    | none =>
      cases op with
      | stop k => simp only [St.exec, St.step]; split <;> rfl
      | send n => rw [St.exec, step_send_fst]
      | _ => rfl

theorem outOpen_final (ops : List Op) : (St.final St.init ops).outOpen = outOpenAfter ops := by
  rw [lastOutCall_final, outOpenAfter]
  cases lastOutCall ops with
  | none => rfl
  | some b => cases b <;> rfl

theorem listens_final_init (ops : List Op) : (St.final St.init ops).listens = countListens ops := by
  rw [listens_final]
  exact Nat.zero_add _

/-- once the `k`-th stop function has run, listener `k` is dead: the flag is set or the reader belongs to
    someone else, and every later `Listen` gets a larger id -/
def Dead (k : Nat) (s : St) : Prop := (s.stopListening = true ∨ s.rd ≠ some k) ∧ k < s.listens

theorem dead_step (k : Nat) (s : St) (op : Op) (h : Dead k s) :
    Dead k (s.exec op).1 ∧ ∀ c ∈ (s.exec op).2.calls, c.1 ≠ k := by
  obtain ⟨i, o, rd, st, n⟩ := s
  obtain ⟨h1, h2⟩ := h
  have nocall : ∀ c ∈ ([] : List (Nat × Nat)), c.1 ≠ k := fun _ hc => nomatch hc
  cases op with
  | openIn | openOut | closeIn | closeOut => exact ⟨⟨h1, h2⟩, nocall⟩
  | listen =>
    -- the new reader belongs to listener `n`, and `k < n`
    exact ⟨⟨Or.inr fun e => by injection e with e; omega, Nat.lt_succ_of_lt h2⟩, nocall⟩
  | stop j =>
    simp only [St.exec, St.step]
    split
    · exact ⟨⟨Or.inl rfl, h2⟩, nocall⟩
    · exact ⟨⟨h1, h2⟩, nocall⟩
  | send m =>
    -- a callback is made only with the flag down and a reader, which by `h1` is not listener `k`'s
    cases o <;> cases st <;> cases rd <;> simp_all [Dead, St.exec, St.step]

theorem dead_trace (k : Nat) (s : St) (ops : List Op) (h : Dead k s) :
    ∀ o ∈ St.trace s ops, ∀ c ∈ o.calls, c.1 ≠ k := by
  induction ops generalizing s with
  | nil => simp [St.trace]
  | cons op r ih =>
    have := dead_step k s op h
    intro o ho
    simp only [St.trace, List.mem_cons] at ho
    rcases ho with rfl | ho
    · exact this.2
    · exact ih _ this.1 o ho

end Midi.Ports
