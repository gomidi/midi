import Proofs.MsgCtor
import Proofs.LiveStep
/-!
# What the listener of `midi.ListenTo` gets: `retype` (its `onMsg` closure), `keep`, `listenFrames`

`retype` by class of the first byte: one equation per class of status byte, for an arbitrary rest of the frame.
-/
namespace Midi.LiveWire
open Midi.Live

/-- all listen options on (`UseSysEx`, `UseActiveSense`, `UseTimeCode`); any buffer size. The hypothesis of the theorems on
    the wire specification, hence the namespace; it stands here for `keep_allOn`, which C14 uses without that specification. -/
def AllOn (c : Cfg) : Prop := c.sysex = true ∧ c.as = true ∧ c.tc = true

end Midi.LiveWire

namespace Midi.Live
open Midi Midi.Msg

/-- `_channelMessage(typ, channel, arg1, arg2)` of `listen.go`: the constructor that belongs to the high nibble of a
    channel status; `none` = a `panic` (its default branch, or `Pitchbend`'s) -/
def chanMsg (typ ch d1 d2 : Nat) : Option Bytes :=
  if typ = 0xD then some (afterTouch ch d1)
  else if typ = 0xC then some (programChange ch d1)
  else if typ = 0xB then some (controlChange ch d1 d2)
  else if typ = 0x9 then some (noteOn ch d1 d2)
  else if typ = 0x8 then some (noteOffVelocity ch d1 d2)
  else if typ = 0xA then some (polyAfterTouch ch d1 d2)
  else if typ = 0xE then pitchbend ch (parsePitchWheelVals d1 d2).1
  else none

theorem retype_rt (b : Nat) (r : Bytes) (h : 0xF8 ≤ b) : retype (b :: r) = some (some [b]) := by
  simp only [retype, h, if_true]

theorem retype_F7 (r : Bytes) : retype (0xF7 :: r) = none := by simp [retype]

theorem retype_sysex (r : Bytes) : retype (0xF0 :: r) = some (some (0xF0 :: r)) := by simp [retype]

theorem retype_F6 (r : Bytes) : retype (0xF6 :: r) = some (some [0xF6]) := by simp [retype, tune]

theorem retype_F1 (d : Nat) (r : Bytes) (hd : d < 0x80) : retype (0xF1 :: d :: r) = some (some [0xF1, d]) := by
  simp [retype, mtc_eq, Nat.mod_eq_of_lt hd]

theorem retype_F3 (d : Nat) (r : Bytes) (hd : d < 0x80) : retype (0xF3 :: d :: r) = some (some [0xF3, d]) := by
  simp [retype, songSelect_eq, Nat.mod_eq_of_lt hd]

theorem parsePitchWheelVals_data (d1 d2 : Nat) (h1 : d1 < 0x80) (h2 : d2 < 0x80) :
    parsePitchWheelVals d1 d2 = (((d2 * 128 + d1 : Nat) : Int) - 8192, d2 * 128 + d1) := by
  rw [parsePitchWheelVals_eq, Nat.mod_eq_of_lt h1, Nat.mod_eq_of_lt h2]

/-- the 14-bit value comes apart into the two data bytes it was joined from (`omega` proves this at five times the cost) -/
theorem wheel_split (d1 d2 : Nat) (h1 : d1 < 0x80) : (d2 * 128 + d1) % 128 = d1 ∧ (d2 * 128 + d1) / 128 = d2 :=
  ⟨by rw [Nat.mul_add_mod_self_right, Nat.mod_eq_of_lt h1],
   by rw [Nat.mul_comm, Nat.mul_add_div (by decide), Nat.div_eq_of_lt h1, Nat.add_zero]⟩

theorem spp_wheel (d1 d2 : Nat) (h1 : d1 < 0x80) (h2 : d2 < 0x80) :
    spp (parsePitchWheelVals d1 d2).2 = [0xF2, d1, d2] := by
  rw [parsePitchWheelVals_data d1 d2 h1 h2, spp_eq, (wheel_split d1 d2 h1).1, (wheel_split d1 d2 h1).2,
    Nat.mod_eq_of_lt h2]

theorem retype_F2 (d1 d2 : Nat) (r : Bytes) (h1 : d1 < 0x80) (h2 : d2 < 0x80) :
    retype (0xF2 :: d1 :: d2 :: r) = some (some [0xF2, d1, d2]) := by
  simp [retype, spp_wheel d1 d2 h1 h2]

theorem retype_chanStatus (st d1 d2 : Nat) (r : Bytes) (h1 : 0x80 ≤ st) (h2 : st ≤ 0xEF) :
    retype (st :: d1 :: d2 :: r) = some (chanMsg (st / 16) (st % 16) d1 d2) := by
  have e0 : ¬ 0xF8 ≤ st := by omega
  have e1 : ¬ (0xF0 < st ∧ st < 0xF7) := by omega
  have e2 : ¬ st = 0xF7 := by omega
  have e3 : ¬ st = 0xF0 := by omega
  simp only [retype, e0, e1, e2, e3, h1, h2, if_false, and_self, if_true, parseStatus_eq st (by omega), chanMsg,
    apply_ite some]

theorem retype_chanShort (st : Nat) (rest : Bytes) (h1 : 0x80 ≤ st) (h2 : st ≤ 0xEF) (hl : rest.length < 2) :
    retype (st :: rest) = some none := by
  have e0 : ¬ 0xF8 ≤ st := by omega
  have e1 : ¬ (0xF0 < st ∧ st < 0xF7) := by omega
  have e2 : ¬ st = 0xF7 := by omega
  have e3 : ¬ st = 0xF0 := by omega
  rcases rest with _ | ⟨d1, _ | ⟨d2, tl⟩⟩
  · simp only [retype, e0, e1, e2, e3, h1, h2, if_false, and_self, if_true]
  · simp only [retype, e0, e1, e2, e3, h1, h2, if_false, and_self, if_true]
  · simp at hl; omega

theorem pitchbend_wheel (ch d1 d2 : Nat) (h1 : d1 < 0x80) (h2 : d2 < 0x80) :
    pitchbend ch (parsePitchWheelVals d1 d2).1 = some [0xE0 + min ch 15, d1, d2] := by
  have hc : clampPitch (((d2 * 128 + d1 : Nat) : Int) - 8192) = ((d2 * 128 + d1 : Nat) : Int) - 8192 := by
    rw [clampPitch_eq]; omega
  rw [parsePitchWheelVals_data d1 d2 h1 h2, pitchbend_eq]
  simp only
  rw [hc, Int.sub_add_cancel, Int.toNat_natCast, (wheel_split d1 d2 h1).1, (wheel_split d1 d2 h1).2]

/-- on data bytes `< 0x80` the clamping of the constructors and the pitch-bend re-encoding are the identity:
    `_channelMessage` rebuilds the wire bytes — two of them for program change / channel pressure -/
theorem chanMsg_data (st d1 d2 : Nat) (hlo : 0x80 ≤ st) (hhi : st ≤ 0xEF) (h1 : d1 < 0x80) (h2 : d2 < 0x80) :
    chanMsg (st / 16) (st % 16) d1 d2 = some (if 0xC0 ≤ st ∧ st ≤ 0xDF then [st, d1] else [st, d1, d2]) := by
  have m1 : min d1 127 = d1 := by omega
  have m2 : min d2 127 = d2 := by omega
  have mc : min (st % 16) 15 = st % 16 := by omega
  unfold chanMsg
  by_cases hc : 0xC0 ≤ st ∧ st ≤ 0xDF
  · rw [if_pos hc]
    have hk : st / 16 = 12 ∨ st / 16 = 13 := by omega
    rcases hk with hk | hk <;> rw [hk]
    · have hs : 0xC0 + st % 16 = st := by omega
      simp [programChange_eq, m1, mc, hs]
    · have hs : 0xD0 + st % 16 = st := by omega
      simp [afterTouch_eq, m1, mc, hs]
  · rw [if_neg hc]
    have hk : st / 16 = 8 ∨ st / 16 = 9 ∨ st / 16 = 10 ∨ st / 16 = 11 ∨ st / 16 = 14 := by omega
    rcases hk with hk | hk | hk | hk | hk <;> rw [hk]
    · have hs : 0x80 + st % 16 = st := by omega
      simp [noteOffVelocity_eq, m1, m2, mc, hs]
    · have hs : 0x90 + st % 16 = st := by omega
      simp [noteOn_eq, m1, m2, mc, hs]
    · have hs : 0xA0 + st % 16 = st := by omega
      simp [polyAfterTouch_eq, m1, m2, mc, hs]
    · have hs : 0xB0 + st % 16 = st := by omega
      simp [controlChange_eq, m1, m2, mc, hs]
    · have hs : 0xE0 + st % 16 = st := by omega
      simp [pitchbend_wheel _ _ _ h1 h2, mc, hs]

theorem retype_chan (st d1 d2 : Nat) (r : Bytes) (hlo : 0x80 ≤ st) (hhi : st ≤ 0xEF) (h1 : d1 < 0x80) (h2 : d2 < 0x80) :
    retype (st :: d1 :: d2 :: r) =
      some (some (if 0xC0 ≤ st ∧ st ≤ 0xDF then [st, d1] else [st, d1, d2])) := by
  rw [retype_chanStatus st d1 d2 r hlo hhi, chanMsg_data st d1 d2 hlo hhi h1 h2]

/-- whatever `_channelMessage` builds is a message: the closure's test `msg == nil` does not fire on it -/
theorem chanMsg_ne_nil {typ ch d1 d2 : Nat} {m : Bytes} (h : chanMsg typ ch d1 d2 = some m) : m ≠ [] := by
  -- every branch is a constructor, a list that starts with the status byte; `apply_ite` carries the test through
  -- the chain of `if`s (splitting the chain eight ways costs thirty times as much)
  have all : (chanMsg typ ch d1 d2).all (fun m => !m.isEmpty) = true := by
    simp only [chanMsg, apply_ite (Option.all _), afterTouch_eq, programChange_eq, controlChange_eq, noteOn_eq,
      noteOffVelocity_eq, polyAfterTouch_eq, pitchbend_eq, Option.all_some, Option.all_none, List.isEmpty_cons,
      Bool.not_false, ite_self]
  rw [h] at all
  intro hm
  subst hm
  cases all

theorem keep_allOn (c : Cfg) (h : LiveWire.AllOn c) (f : Frame) : keep c f = true := by
  unfold keep
  cases f.1 with
  | nil => rfl
  | cons b r => simp [h.1, h.2.1, h.2.2]

theorem mem_listenFrames (c : Cfg) (frames : List Frame) (m : Option Bytes × Int) :
    m ∈ listenFrames c frames ↔ ∃ f ∈ frames, keep c f = true ∧ retype f.1 = some m.1 ∧ f.2 = m.2 := by
  simp only [listenFrames, List.mem_filterMap, List.mem_filter, Option.map_eq_some_iff]
  constructor
  · rintro ⟨f, ⟨hf, hk⟩, a, ha, rfl⟩
    exact ⟨f, hf, hk, ha, rfl⟩
  · rintro ⟨f, hf, hk, ha, ht⟩
    exact ⟨f, ⟨hf, hk⟩, m.1, ha, by rw [ht]⟩

theorem listenFrames_append (c : Cfg) (a b : List Frame) :
    listenFrames c (a ++ b) = listenFrames c a ++ listenFrames c b := by
  simp [listenFrames, List.filter_append, List.filterMap_append]

theorem listen_append (c : Cfg) (a b : List Tok) :
    listen c (a ++ b) = listen c a ++ listenFrames c (feed c (feed c init a).1 b).2 := by
  unfold listen
  rw [feed_append, listenFrames_append]

theorem listenFrames_cons (c : Cfg) (f : Frame) (r : List Frame) (m : Bytes)
    (hk : keep c f = true) (hr : retype f.1 = some (some m)) :
    listenFrames c (f :: r) = (some m, f.2) :: listenFrames c r := by
  simp [listenFrames, hk, hr]

end Midi.Live
