import MidiModel.Msg
import MidiModel.Meta
/-! Helper lemmas about the message layer (`MidiModel/Msg.lean`) for C07 and C08, and what ties its smf view to the
    classification of `MidiModel/Meta.lean` (C15). -/
namespace Midi.Msg

/-- `(b & 0xF0) >> 4` is `(b >> 4) & 0x0F`, and masking with `0x0F` is the remainder modulo 16 -/
theorem parseStatus_eq : ∀ b < 256, parseStatus b = (b / 16, b % 16) := by
  intro b h
  unfold parseStatus
  rw [Nat.shiftRight_and_distrib, Nat.shiftRight_eq_div_pow]
  exact Prod.ext ((Nat.and_two_pow_sub_one_eq_mod _ 4).trans (Nat.mod_eq_of_lt (by omega)))
    (Nat.and_two_pow_sub_one_eq_mod b 4)

theorem and7f (b : Nat) : b &&& 0x7f = b % 128 := Nat.and_two_pow_sub_one_eq_mod b 7

theorem parseUint7_eq (b : Nat) : parseUint7 b = b % 128 := and7f b

theorem getCompleteStatus_eq : ∀ st < 16, ∀ c < 16, getCompleteStatus st c = st * 16 + c := by decide +kernel

theorem clampHi_eq (x hi : Nat) : clampHi x hi = min x hi := by
  unfold clampHi; split <;> omega

theorem clampPitch_eq (v : Int) : clampPitch v = max (-8192) (min v 8191) := by
  simp only [clampPitch]; split <;> split <;> omega

theorem clearBit7_low : ∀ lo < 128, clearBitU16 (lo * 256) 7 = lo * 256 := by decide +kernel

/-- `MsbLsbUnsigned` puts the low 7 bits into the high byte and the high 7 bits into the low byte -/
theorem msbLsbUnsigned_eq (u : Nat) (h : u < 16384) : msbLsbUnsigned u = some (u % 128 * 256 + u / 128) := by
  unfold msbLsbUnsigned
  rw [if_neg (by omega)]
  have c15 : ∀ x, clearBitU16 x 15 = x % 32768 := by
    intro x; exact Nat.and_two_pow_sub_one_eq_mod x 15
  have hm : 0x7f &&& (u >>> 7) = u / 128 := by
    rw [Nat.and_comm, Nat.shiftRight_eq_div_pow]
    have := Nat.and_two_pow_sub_one_eq_mod (u / 2 ^ 7) 7
    simp only [Nat.reducePow, Nat.add_one_sub_one] at this ⊢
    rw [this]; omega
  simp only [c15, hm, Nat.shiftLeft_eq, Nat.reducePow]
  have : u * 256 % 65536 % 32768 = u % 128 * 256 := by omega
  rw [this, clearBit7_low _ (by omega)]
  have := Nat.shiftLeft_add_eq_or_of_lt (i := 8) (b := u / 128) (by omega) (u % 128)
  simp only [Nat.shiftLeft_eq, Nat.reducePow] at this
  rw [← this]

theorem msbLsbSigned_eq (cv : Int) (h1 : -8192 ≤ cv) (h2 : cv ≤ 8191) :
    msbLsbSigned cv = some ((cv + 8192).toNat % 128 * 256 + (cv + 8192).toNat / 128) := by
  unfold msbLsbSigned
  have : ((cv + 8192 + 32768) % 65536 - 32768) % 65536 = cv + 8192 := by omega
  simp only [this]
  exact msbLsbUnsigned_eq _ (by omega)

theorem hi_lo_bytes (hi lo : Nat) (hh : hi < 256) (hl : lo < 256) :
    (hi * 256 + lo) / 256 % 256 = hi ∧ (hi * 256 + lo) % 256 = lo := by
  omega

/-- `ParsePitchWheelVals` for arbitrary bytes: 14-bit value, least significant 7 bits in `b1` -/
theorem parsePitchWheelVals_eq (b1 b2 : Nat) :
    parsePitchWheelVals b1 b2 = (((b2 % 128 * 128 + b1 % 128 : Nat) : Int) - 8192, b2 % 128 * 128 + b1 % 128) := by
  unfold parsePitchWheelVals
  simp only [and7f]
  have h := Nat.shiftLeft_add_eq_or_of_lt (i := 7) (b := b1 % 128) (by omega) (b2 % 128)
  simp only [Nat.shiftLeft_eq, Nat.reducePow] at h ⊢
  have h2 : b2 % 128 * 128 % 65536 = b2 % 128 * 128 := by omega
  rw [h2, ← h]
  have hlt : b2 % 128 * 128 + b1 % 128 < 32768 := by omega
  simp only [hlt, if_true]
  generalize b2 % 128 * 128 + b1 % 128 = x at hlt
  congr 1
  omega

/-- a type-specific accessor type: positive, or `SysExMsg`, the one negative code that is a type and not a category -/
def Specific (T : Int) : Prop := 0 < T ∨ T = SysExMsg

/-- `Is(T)` for a type-specific `T` is equality of types: the tests of `Type.Is`, in their order -/
theorem typeIs_of_specific (t T : Int) (hT : Specific T) : typeIs t T = decide (t = T) := by
  have hT : 0 < T ∨ T = -4 := hT
  unfold typeIs
  simp only [UnknownMsg, SysExMsg]
  by_cases h0 : t = 0
  · rw [if_pos h0]
    exact decide_eq_decide.2 (by omega)
  · rw [if_neg h0]
    by_cases h4 : t = -4
    · rw [if_pos h4]
      exact decide_eq_decide.2 (by omega)
    · rw [if_neg h4]
      by_cases hn : t < 0
      · rw [if_pos hn]
        exact (decide_eq_false (by omega)).symm
      · rw [if_neg hn]
        rcases hT with hT | rfl
        · rw [if_neg (by omega), if_pos hT]
        · -- no later test of `Type.Is` asks about `SysExMsg`
          rw [decide_eq_false h4]
          rfl

@[simp] theorem getType_nil : getType [] = some UnknownMsg := rfl
@[simp] theorem getType_cons (b : Nat) (r : Bytes) : getType (b :: r) = some (typeOfStatus b) := by
  simp [getType]

/-- every type `midi.Message` reports is the type of a first byte (the empty message: unknown, as for byte 0) -/
theorem getType_status : (m : Bytes) → ∃ b, getType m = some (typeOfStatus b)
  | [] => ⟨0, rfl⟩
  | b :: r => ⟨b, getType_cons b r⟩

theorem getType_total (m : Bytes) : ∃ t, getType m = some t :=
  (getType_status m).elim fun _ h => ⟨_, h⟩

@[simp] theorem smfIsMeta_nil : smfIsMeta [] = some false := rfl
@[simp] theorem smfIsMeta_cons (b : Nat) (r : Bytes) : smfIsMeta (b :: r) = some (decide (b = 0xFF)) := by
  simp [smfIsMeta]

theorem smfIsMeta_total (m : Bytes) : ∃ t, smfIsMeta m = some t := by
  cases m <;> simp

@[simp] theorem smfGetType_nil : smfGetType [] = some UnknownMsg := rfl
@[simp] theorem smfGetType_ff : smfGetType [0xFF] = some UnknownMsg := by decide
@[simp] theorem smfGetType_meta (b : Nat) (r : Bytes) : smfGetType (0xFF :: b :: r) = some (getMetaType b) := by
  simp [smfGetType]
theorem smfGetType_plain (b : Nat) (r : Bytes) (h : b ≠ 0xFF) : smfGetType (b :: r) = some (typeOfStatus b) := by
  simp [smfGetType, h]

/-- every type `smf.Message` reports is the type of a first byte or of a meta type byte -/
theorem smfGetType_status (m : Bytes) :
    (∃ b, smfGetType m = some (typeOfStatus b)) ∨ ∃ b, smfGetType m = some (getMetaType b) := by
  rcases m with _ | ⟨b, r⟩
  · exact .inl ⟨0, rfl⟩
  · by_cases hb : b = 0xFF
    · subst hb
      rcases r with _ | ⟨c, r⟩
      · exact .inl ⟨0, smfGetType_ff⟩
      · exact .inr ⟨c, smfGetType_meta c r⟩
    · exact .inl ⟨b, smfGetType_plain b r hb⟩

theorem smfGetType_total (m : Bytes) : ∃ t, smfGetType m = some t := by
  rcases smfGetType_status m with ⟨_, h⟩ | ⟨_, h⟩ <;> exact ⟨_, h⟩

theorem typeOf_total (v : View) (m : Bytes) : ∃ t, typeOf v m = some t := by
  cases v
  · exact getType_total m
  · exact smfGetType_total m

theorem msgIs_of_type {v : View} {m : Bytes} {t : Int} (h : typeOf v m = some t) (T : Int) :
    msgIs v m T = some (typeIs t T) := by
  simp [msgIs, h]

theorem msgIs_nil (T : Int) : msgIs .midi [] T = some (typeIs UnknownMsg T) := rfl

theorem msgIs_cons (b : Nat) (r : Bytes) (T : Int) : msgIs .midi (b :: r) T = some (typeIs (typeOfStatus b) T) :=
  msgIs_of_type (v := .midi) (getType_cons b r) T

theorem msgIs_eq (v : View) (m : Bytes) (T : Int) :
    ∃ t, typeOf v m = some t ∧ msgIs v m T = some (typeIs t T) := by
  obtain ⟨t, ht⟩ := typeOf_total v m
  exact ⟨t, ht, msgIs_of_type ht T⟩

theorem msgIs_ne_none (v : View) (m : Bytes) (T : Int) : msgIs v m T ≠ none := by
  obtain ⟨t, _, h⟩ := msgIs_eq v m T
  simp [h]

theorem msgIs_true_iff (v : View) (m : Bytes) (T : Int) (hT : Specific T) :
    msgIs v m T = some true ↔ typeOf v m = some T := by
  obtain ⟨t, ht, h⟩ := msgIs_eq v m T
  rw [h, ht, typeIs_of_specific t T hT]
  simp

theorem isOneOf_ne_none (v : View) (m : Bytes) (cs : List Int) : isOneOf v m cs ≠ none := by
  induction cs with
  | nil => simp [isOneOf]
  | cons c cs ih =>
    unfold isOneOf
    obtain ⟨t, _, h⟩ := msgIs_eq v m c
    rw [h]
    cases typeIs t c <;> simp [ih]

theorem isPlayable_ne_none (m : Bytes) : isPlayable m ≠ none := by
  obtain ⟨t, ht⟩ := getType_total m
  unfold isPlayable
  rw [ht]
  simp only
  split <;> simp

theorem smfIsPlayable_ne_none (m : Bytes) : smfIsPlayable m ≠ none := by
  obtain ⟨t, ht⟩ := smfGetType_total m
  obtain ⟨b, hb⟩ := smfIsMeta_total m
  unfold smfIsPlayable
  rw [hb, ht]
  cases b <;> simp only
  · split <;> simp
  · simp

/-- the first byte is not `0xFF` whenever `midi.Message` reports a type other than Reset, and then
    `smf.Message` reports the same type -/
theorem smfGetType_of_getType (m : Bytes) (T : Int) (h : getType m = some T) (hT : T ≠ ResetMsg) :
    smfGetType m = some T := by
  cases m with
  | nil => exact h
  | cons b r =>
    rw [getType_cons] at h
    have hb : b ≠ 0xFF := fun hb => hT (Option.some.inj (hb ▸ h).symm)
    rw [smfGetType_plain b r hb, h]

/-! ## the `Is(T)` guard

Every accessor of the model opens with `Is(T)`: a panic of `Type()` is a panic, `false` is `false`, `true` is the body.
The two lemmas say what follows from that shape alone; `rfl` recognises the shape in each accessor. -/

theorem guard_accepts {α : Type} {v : View} {m : Bytes} {T : Int} {b r : Res α}
    (hr : r = match msgIs v m T with | none => .panic | some false => .no | some true => b)
    (h : r.accepts = true) : msgIs v m T = some true := by
  subst hr
  split at h
  · exact nomatch h
  · exact nomatch h
  · assumption

theorem guard_ne_panic {α : Type} {v : View} {m : Bytes} {T : Int} {b r : Res α}
    (hr : r = match msgIs v m T with | none => .panic | some false => .no | some true => b)
    (hb : msgIs v m T = some true → b ≠ .panic) : r ≠ .panic := by
  subst hr
  match hm : msgIs v m T with
  | none => exact absurd hm (msgIs_ne_none v m T)
  | some false => exact nofun
  | some true => exact hb hm

/-! ## the first byte and the meta range; `Meta.isType` is `Is` in the smf view -/

/-- every test of `getType` compares the first byte with byte values: beyond the byte range all of them fail -/
theorem typeOfStatus_big (b : Nat) (h : 256 ≤ b) : typeOfStatus b = UnknownMsg := by
  have hn : ∀ c, c < 256 → ¬ b = c := by omega
  have h1 : ¬ b ≤ 0xEF := by omega
  have h2 : ¬ b < 0xF7 := by omega
  simp [typeOfStatus, getRealtimeType, rtMessages, hn, h1, h2]

theorem getMetaType_big (b : Nat) (h : 256 ≤ b) : getMetaType b = UnknownMsg := by
  have hn : ∀ c, c < 256 → ¬ b = c := by omega
  simp [getMetaType, metaMessages, hn]

/-- the classes the live path and the running-status writer ask `Is` about — `ChannelMsg` (-3), `ActiveSenseMsg` (6),
    `TimingClockMsg` (2), `SysExMsg` (-4) — read off the first byte, any natural number -/
theorem typeIs_class (b : Nat) :
    typeIs (typeOfStatus b) (-3) = decide (0x80 ≤ b ∧ b ≤ 0xEF) ∧
    typeIs (typeOfStatus b) 6 = decide (b = 254) ∧
    typeIs (typeOfStatus b) 2 = decide (b = 248) ∧
    typeIs (typeOfStatus b) (-4) = decide (b = 240 ∨ b = 247) := by
  by_cases h : b < 256
  · revert b
    decide +kernel
  · rw [typeOfStatus_big b (by omega)]
    have n0 : ¬ (0x80 ≤ b ∧ b ≤ 0xEF) := by omega
    have n1 : ¬ b = 254 := by omega
    have n2 : ¬ b = 248 := by omega
    have n3 : ¬ (b = 240 ∨ b = 247) := by omega
    simp only [n0, n1, n2, n3, decide_false]
    decide

/-- what holds of the type of every status byte holds of `typeOfStatus b` for every natural number `b`: beyond the byte
    range the type is unknown, as it is for byte 0 -/
theorem typeOfStatus_all {P : Int → Prop} (h : ∀ b < 256, P (typeOfStatus b)) (b : Nat) : P (typeOfStatus b) := by
  by_cases hb : b < 256
  · exact h b hb
  · rw [typeOfStatus_big b (by omega)]
    exact h 0 (by decide)

/-- the same for the meta type byte (`0x0A` is one that has no type) -/
theorem getMetaType_all {P : Int → Prop} (h : ∀ b < 256, P (getMetaType b)) (b : Nat) : P (getMetaType b) := by
  by_cases hb : b < 256
  · exact h b hb
  · rw [getMetaType_big b (by omega)]
    exact h 0x0A (by decide)

/-- no `midi.Message` type reaches the meta range (fact `c15NonMetaTypeMax`) -/
theorem typeOfStatus_lt_meta (b : Nat) : typeOfStatus b < 70 :=
  typeOfStatus_all (P := (· < 70)) (by decide +kernel) b

/-- the `metaMessages` table with `Int` codes (`Msg`) and with `Nat` codes (`Meta`) -/
theorem getMetaType_eq (b : Nat) : getMetaType b = (Meta.metaTypeOf b : Int) := by
  by_cases h : b < 256
  · revert b
    decide +kernel
  · rw [getMetaType_big b (by omega)]
    obtain ⟨k, rfl⟩ : ∃ k, b = k + 256 := ⟨b - 256, by omega⟩
    rfl

/-- **`Meta.isType` is `Is` in the smf view**: for every meta type constant (every code from 70 up) and every byte
    string. A message without a leading `FF` has a `midi` type, all of which are below 70. -/
theorem msgIs_smf_meta (t : Nat) (ht : 70 ≤ t) (m : Bytes) : msgIs .smf m (t : Int) = some (Meta.isType t m) := by
  have hT : (0 : Int) < t := by omega
  have is (ty : Int) (h : smfGetType m = some ty) : msgIs .smf m t = some (decide (ty = t)) := by
    rw [msgIs_of_type (v := .smf) h, typeIs_of_specific _ _ (.inl hT)]
  have plain (a : Nat) (r : Bytes) (ha : a ≠ 0xFF) (hm : m = a :: r) : msgIs .smf m t = some (Meta.isType t m) := by
    have := typeOfStatus_lt_meta a
    rw [is _ (hm ▸ smfGetType_plain a r ha), hm]
    simp [Meta.isType, ha]
    omega
  rcases m with _ | ⟨a, _ | ⟨b, r⟩⟩
  · rw [is 0 rfl]
    simp [Meta.isType]
    omega
  · by_cases ha : a = 0xFF
    · subst ha
      rw [is 0 smfGetType_ff]
      simp [Meta.isType]
      omega
    · exact plain a [] ha rfl
  · by_cases ha : a = 0xFF
    · subst ha
      rw [is _ (smfGetType_meta b r), getMetaType_eq]
      simp only [Meta.isType]
      generalize Meta.metaTypeOf b = x
      by_cases hx : x = t
      · subst hx
        simp [Meta.tUnknown]
        omega
      · have : ¬ ((x : Int) = t) := by omega
        simp [hx, this]
    · exact plain a (b :: r) ha rfl

end Midi.Msg
