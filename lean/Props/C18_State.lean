import MidiModel.Generated.StateShape
import Proofs.StateShapeExpected
/-!
# C18, tie to the source: the state the code keeps has the shape the model assumes
(the packages this property's models read; the comparison is explained in `Props/C01_State.lean`)
-/
namespace Midi.C18
theorem code_state_shape_sysex : Midi.StateShape.sysex = Midi.StateShapeExpected.sysex := rfl
theorem code_state_shape_mmc : Midi.StateShape.mmc = Midi.StateShapeExpected.mmc := rfl
theorem code_state_shape_root : Midi.StateShape.root = Midi.StateShapeExpected.root := rfl
end Midi.C18
