import Proofs.LiveWireStep
/-!
# Ticks only move the clock

`er` forgets the two clock fields of the decoder state. Every decoder function commutes with `er`
(the frames lose their time stamps, nothing else changes), hence the contents and the order of what is
delivered do not depend on where the ticks are — for EVERY token stream.
-/
namespace Midi.LiveWire
open Midi.Live

def er (s : St) : St := { s with ts := 0, sxTs := 0 }
def zeroTs (f : Frame) : Frame := (f.1, 0)

@[simp] theorem er_status (s : St) : (er s).status = s.status := rfl
@[simp] theorem er_mode (s : St) : (er s).mode = s.mode := rfl
@[simp] theorem er_typ (s : St) : (er s).typ = s.typ := rfl
@[simp] theorem er_pend (s : St) : (er s).pend = s.pend := rfl
@[simp] theorem er_sx (s : St) : (er s).sx = s.sx := rfl
@[simp] theorem er_ts (s : St) : (er s).ts = 0 := rfl
@[simp] theorem er_sxTs (s : St) : (er s).sxTs = 0 := rfl

theorem withinChan_er (s : St) (b : Nat) :
    withinChan (er s) b = (er (withinChan s b).1, (withinChan s b).2.map zeroTs) := by
  by_cases h1 : s.typ = 0xD ∨ s.typ = 0xC
  · simp [withinChan, h1, zeroTs]; rfl
  · by_cases h2 : s.typ = 0xB ∨ s.typ = 0x9 ∨ s.typ = 0x8 ∨ s.typ = 0xA ∨ s.typ = 0xE
    · cases hp : s.pend <;> simp [withinChan, h1, h2, hp, zeroTs] <;> rfl
    · simp [withinChan, h1, h2]; rfl

theorem syscStep_er (s : St) (b : Nat) :
    syscStep (er s) b = (er (syscStep s b).1, (syscStep s b).2.map zeroTs) := by
  by_cases h1 : s.typ = 0xF1 ∨ s.typ = 0xF3
  · simp [syscStep, h1, zeroTs]; rfl
  · by_cases h2 : s.typ = 0xF2
    · cases hp : s.pend <;> simp [syscStep, h2, hp, zeroTs] <;> rfl
    · simp [syscStep, h1, h2]

theorem cleanState_status_er (s : St) (b : Nat) (h1 : 0x80 ≤ b) (h2 : b < 0xF8) :
    cleanState (er s) b = (er (cleanState s b).1, (cleanState s b).2.map zeroTs) := by
  rcases status_cases h1 h2 with hc | hs | hu | rfl | rfl | rfl
  · rw [cleanState_chanStatus _ b hc.1 hc.2, cleanState_chanStatus _ b hc.1 hc.2]
    rfl
  · rw [cleanState_syscStatus _ b hs, cleanState_syscStatus _ b hs]
    rfl
  · rw [cleanState_undefined _ b hu, cleanState_undefined _ b hu]
    rfl
  · rw [cleanState_tune, cleanState_tune]
    rfl
  · rw [Live.cleanState_sxStart, Live.cleanState_sxStart]
    rfl
  · rw [cleanState_sxEnd, cleanState_sxEnd]
    rfl

theorem step_er (c : Cfg) (s : St) (b : Nat) :
    step c (er s) b = (er (step c s b).1, (step c s b).2.map zeroTs) := by
  rcases byte_cases s b with hrt | ⟨rfl, hm⟩ | ⟨hst, hb, h7⟩ | ⟨hd, hm | hm | hm | hm | hm⟩
  · rw [step_rt c _ b hrt, step_rt c s b hrt]
    rfl
  · rw [step_sysex_end c (er s) hm, step_sysex_end c s hm]
    have hx : (c.sysex = true ∧ (er s).sx ≠ [] ∧ (er s).sx.length < c.bufSize) =
        (c.sysex = true ∧ s.sx ≠ [] ∧ s.sx.length < c.bufSize) := rfl
    by_cases e : c.sysex = true ∧ s.sx ≠ [] ∧ s.sx.length < c.bufSize
    · rw [if_pos e, if_pos (hx ▸ e)]
      rfl
    · rw [if_neg e, if_neg (hx ▸ e)]
      rfl
  · rw [step_status c (er s) b hst hb h7, step_status c s b hst hb h7]
    exact cleanState_status_er s.idle b hst hb
  · rw [step_clean_data c (er s) b hm hd, step_clean_data c s b hm hd]
    by_cases hs : s.status ≠ 0
    · rw [if_pos hs, if_pos (show (er s).status ≠ 0 from hs)]
      exact withinChan_er { s with mode := .chan } b
    · rw [if_neg hs, if_neg (show ¬ (er s).status ≠ 0 from hs)]
      rfl
  · rw [step_chan_data c (er s) b hm hd, step_chan_data c s b hm hd, withinChan_er]
  · rw [step_sysc_data c (er s) b hm hd, step_sysc_data c s b hm hd, syscStep_er]
  · rw [step_sysex_data c (er s) b hm hd, step_sysex_data c s b hm hd]
    rfl
  · rw [step_unknown_data c (er s) b hm hd, step_unknown_data c s b hm hd]
    rfl

theorem er_adv (s : St) (d : Int) : er (adv s d) = er s := rfl
theorem er_er (s : St) : er (er s) = er s := rfl

theorem feed_er (c : Cfg) (toks : List Tok) :
    ∀ s : St, feed c (er s) (untick toks) = (er (feed c s toks).1, (feed c s toks).2.map zeroTs) := by
  induction toks with
  | nil => intro s; rfl
  | cons x r ih =>
    intro s
    cases x with
    | byte b =>
      have e : untick (Tok.byte b :: r) = Tok.byte b :: untick r := rfl
      rw [e, feed_cons, feed_cons]
      simp only [stepTok, step_er, ih, List.map_append]
    | tick d =>
      have e : untick (Tok.tick d :: r) = untick r := rfl
      rw [e, feed_cons, stepTok_tick, ← er_adv s d, ih]
      simp

theorem feed_same_bytes (c : Cfg) (a b : List Tok) (h : bytesOf a = bytesOf b) :
    (feed c init a).2.map zeroTs = (feed c init b).2.map zeroTs := by
  have ha := feed_er c a init
  have hb := feed_er c b init
  have e : untick a = untick b := by unfold untick; rw [h]
  rw [e] at ha
  rw [ha] at hb
  exact (congrArg Prod.snd hb)

theorem listenFrames_contents (c : Cfg) (l : List Frame) :
    (listenFrames c l).map (·.1) = (listenFrames c (l.map zeroTs)).map (·.1) := by
  induction l with
  | nil => rfl
  | cons f r ih =>
    have hk : keep c (zeroTs f) = keep c f := rfl
    simp only [listenFrames, List.map_cons, List.filter_cons, hk] at ih ⊢
    cases keep c f with
    | false => simpa using ih
    | true =>
      simp only [if_true, List.filterMap_cons, zeroTs]
      cases retype f.1 with
      | none => simpa using ih
      | some m => simpa using ih

end Midi.LiveWire
