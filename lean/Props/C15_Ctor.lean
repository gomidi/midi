import MidiModel.Meta
import MidiModel.Generated.SmfMetaGo
import Props.C03_Code
/-!
# C15, tie to the source: the meta constructors of `smf/meta.go`, `smf/message.go` (`_MetaMessage`) and
`smf/helpers.go` as translated are the model's constructors (`MidiModel/Meta.lean`) — for every argument, texts and
payloads of every length (the length field is `utils.VlqEncode(uint32(len))`, tied to `Vlq.encode` in
`Props/C03_Code.lean`). A Go string is the list of its bytes in this translation (`strings_as_bytes`): `[]byte(text)` is the
identity.
-/
namespace Midi.C15
open Midi Midi.Go

theorem code_MetaMessage (typ : Nat) (data : Bytes) :
    smf.u_MetaMessage typ data = .ok (Meta.metaMessage typ data) := by
  unfold smf.u_MetaMessage Meta.metaMessage
  rw [Go.toU_natCast, Midi.C03.code_VlqEncode _ (Nat.mod_lt _ (by decide))]
  cases data with
  | nil => rfl
  | cons a r =>
    have : ((a :: r).length : Int) ≠ 0 := by simp only [List.length_cons]; omega
    rw [Go.ok_bind, if_pos this]
    rfl

/-- the nine text constructors, by kind -/
def goText : Meta.TextKind → Bytes → Except String Bytes
  | .lyric => smf.MetaLyric | .copyright => smf.MetaCopyright | .cuepoint => smf.MetaCuepoint
  | .device => smf.MetaDevice | .instrument => smf.MetaInstrument | .marker => smf.MetaMarker
  | .program => smf.MetaProgram | .text => smf.MetaText | .trackName => smf.MetaTrackSequenceName

theorem code_MetaText (k : Meta.TextKind) (text : Bytes) : goText k text = .ok (Meta.metaText k text) := by
  cases k <;>
    simp only [goText, smf.MetaLyric, smf.MetaCopyright, smf.MetaCuepoint, smf.MetaDevice, smf.MetaInstrument,
      smf.MetaMarker, smf.MetaProgram, smf.MetaText, smf.MetaTrackSequenceName, code_MetaMessage, Meta.metaText,
      Meta.TextKind.byte] <;> rfl

theorem code_MetaChannel (ch : Nat) : smf.MetaChannel ch = .ok (Meta.metaChannel ch) := by
  simp only [smf.MetaChannel, code_MetaMessage, Meta.metaChannel]

theorem code_MetaPort (p : Nat) : smf.MetaPort p = .ok (Meta.metaPort p) := by
  simp only [smf.MetaPort, code_MetaMessage, Meta.metaPort]

theorem code_MetaSequencerData (d : Bytes) : smf.MetaSequencerData d = .ok (Meta.metaSequencerData d) := by
  simp only [smf.MetaSequencerData, code_MetaMessage, Meta.metaSequencerData]

theorem code_MetaSMPTE (h mi s f ff : Nat) : smf.MetaSMPTE h mi s f ff = .ok (Meta.metaSMPTE h mi s f ff) := by
  simp only [smf.MetaSMPTE, code_MetaMessage, Meta.metaSMPTE]

theorem code_MetaUndefined (typ : Nat) (d : Bytes) : smf.MetaUndefined typ d = .ok (Meta.metaUndefined typ d) := by
  simp only [smf.MetaUndefined, code_MetaMessage, Meta.metaUndefined]

abbrev dCond : Nat × Nat → Prop := fun s => s.1 > 2
def dStep (s : Nat × Nat) : Nat × Nat := (s.1 >>> 1, (s.2 + 1) % 256)

theorem iter_dec2binLoop : ∀ (n dec bin : Nat), (Go.iter dCond dStep n (dec, bin)).2 = Meta.dec2binLoop n bin dec
  | 0, _, _ => rfl
  | n + 1, dec, bin => by
    unfold Go.iter Meta.dec2binLoop
    by_cases h : dec > 2
    · rw [if_pos h, if_pos h]
      exact Nat.shiftRight_eq_div_pow dec 1 ▸ iter_dec2binLoop n (dec >>> 1) ((bin + 1) % 256)
    · rw [if_neg h, if_neg h]

/-- each round halves: `n` rounds bring every `dec < 3·2^n` down to at most 2 -/
theorem iter_dec2bin_stops : ∀ (n dec bin : Nat), dec < 3 * 2 ^ n → ¬ dCond (Go.iter dCond dStep n (dec, bin))
  | 0, dec, bin, h => by
    simp only [Go.iter, dCond]
    omega
  | n + 1, dec, bin, h => by
    unfold Go.iter
    by_cases hc : dCond (dec, bin)
    · rw [if_pos hc]
      refine iter_dec2bin_stops n _ _ ?_
      simp only [Nat.shiftRight_eq_div_pow]
      rw [Nat.pow_succ] at h
      omega
    · rw [if_neg hc]
      exact hc

theorem code_dec2binDenom (dec : Nat) (h : dec < 256) : smf.dec2binDenom dec = .ok (Meta.dec2binDenom dec) := by
  unfold smf.dec2binDenom Meta.dec2binDenom
  simp only []
  by_cases h1 : dec ≤ 1
  · simp [h1]; rfl
  · simp only [h1, if_false]
    have e1 := iter_dec2binLoop 8 dec 0
    have e2 := iter_dec2bin_stops 8 dec 0 (by omega)
    refine (Go.bind_eq_of_pure (Go.forIn_range_while dCond dStep Go.loopFuel (dec, 0)) _).trans ?_
    rw [Go.iter_of_stop dCond dStep (k := 8) (by decide) e2, if_neg e2, e1]
    rfl

theorem code_bin2decDenom (bin : Nat) (h : bin < 256) : smf.bin2decDenom bin = Meta.bin2decDenom bin := by
  unfold smf.bin2decDenom Meta.bin2decDenom
  by_cases h0 : bin = 0
  · subst h0
    rfl
  · -- `bin - 1` in `uint8` does not wrap for `1 ≤ bin`
    simp only [h0, if_false, Id.run, Nat.shiftLeft_eq, show (bin + 256 - 1 % 256) % 256 = bin - 1 by omega]
    rfl

theorem code_MetaTimeSig (n d c q : Nat) (hd : d < 256) :
    smf.MetaTimeSig n d c q = .ok (Meta.metaTimeSig n d c q) := by
  unfold smf.MetaTimeSig Meta.metaTimeSig
  by_cases hc : c = 0 <;> by_cases hq : q = 0 <;>
    simp only [hc, hq, ↓reduceIte, go_eval, ↓Go.bind_eq_of_pure (code_dec2binDenom d hd), code_MetaMessage] <;> rfl

theorem code_MetaMeter (n d : Nat) (hd : d < 256) : smf.MetaMeter n d = .ok (Meta.metaMeter n d) := by
  unfold smf.MetaMeter Meta.metaMeter
  by_cases h0 : d = 0
  · simp only [h0, ↓reduceIte, go_eval, code_MetaTimeSig n 1 8 8 (by decide)]
  · simp only [h0, ↓reduceIte, go_eval, code_MetaTimeSig n d 8 8 hd]

/-! ## key signature: `sf := int8(num); if isFlat { sf = sf * (-1) }; byte(sf)` -/

theorem toU8_neg_int8 (n : Nat) : Go.toU 8 (Go.wrapS 8 (n : Int) * (-1 : Int)) = (256 - n % 256) % 256 := by
  unfold Go.toU Go.wrapS
  omega

theorem code_MetaKey (key : Nat) (isMajor : Bool) (num : Nat) (isFlat : Bool) :
    smf.MetaKey key isMajor num isFlat = .ok (Meta.metaKey key isMajor num isFlat) := by
  unfold smf.MetaKey Meta.metaKey
  cases isMajor <;> cases isFlat <;>
    simp only [code_MetaMessage, Go.toU_wrapS, Go.toU_natCast, toU8_neg_int8, Nat.reducePow, go_eval, ↓reduceIte] <;> rfl

/-- `MetaSequenceNo(no uint16)` (`binary.Write(&bf, binary.BigEndian, no)` into a `bytes.Buffer`) -/
theorem code_MetaSequenceNo (no : Nat) : smf.MetaSequenceNo no = .ok (Meta.metaSequenceNo no) := by
  unfold smf.MetaSequenceNo Meta.metaSequenceNo
  simp only [go_eval, code_MetaMessage, List.nil_append, be16]
  rfl

end Midi.C15
