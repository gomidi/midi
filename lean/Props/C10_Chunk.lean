import MidiModel.Smf
import MidiModel.Generated.ChunkGo
import Proofs.GoSem
/-!
# C10 (and C03), tie to the source: `chunk.WriteTo` (`smf/chunk.go`) — the one place where the writer hands bytes to the
destination — as translated, the destination's `Write` an uninterpreted function: for a chunk with a 4-byte type it hands
`Write` the bytes `type ++ big-endian int32(len) ++ body` (= `Smf.encChunk`) and returns the count `Write` returned and an
error exactly when `Write` reported one; a chunk whose type was never set reports an error and returns nothing of `Write`.
(`Write` being a pure function here, the equations cannot count calls: that there is one is read off the generated text.)
-/
namespace Midi.C10
open Midi Midi.Go

theorem code_chunk_WriteTo (w : Go.Iface → List Nat → Int × Bool) (typ body : Bytes) (wr : Go.Iface)
    (h4 : typ.length = 4) :
    smf.chunk.WriteTo w ⟨typ, body⟩ wr =
      ((w wr (Smf.encChunk typ body)).1, (w wr (Smf.encChunk typ body)).2) := by
  have hl : smf.chunk.Len ⟨typ, body⟩ = (body.length : Int) := rfl
  unfold smf.chunk.WriteTo Smf.encChunk be32
  have h4i : ¬ ((typ.length : Int) ≠ 4) := by omega
  simp only [hl, Go.toU_wrapS, Go.toU_natCast, Nat.reducePow, h4i, if_false, List.nil_append]
  generalize w wr _ = r
  obtain ⟨n, e⟩ := r
  cases e <;> rfl

theorem code_chunk_WriteTo_untyped (w : Go.Iface → List Nat → Int × Bool) (typ body : Bytes) (wr : Go.Iface)
    (h4 : typ.length ≠ 4) : smf.chunk.WriteTo w ⟨typ, body⟩ wr = (0, true) := by
  unfold smf.chunk.WriteTo
  have h4i : (typ.length : Int) ≠ 4 := by omega
  rw [if_pos h4i]
  rfl

theorem code_chunk_Write (typ body b : Bytes) :
    smf.chunk.Write ⟨typ, body⟩ b = .ok (⟨typ, body ++ b⟩, (b.length : Int), false) := rfl
theorem code_chunk_Clear (typ body : Bytes) : smf.chunk.Clear ⟨typ, body⟩ = .ok ⟨typ, []⟩ := rfl

end Midi.C10
