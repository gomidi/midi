import Proofs.SequencerEmit
import Proofs.SequencerDomain
/-!
# C20: complete description of both exports on the domain

`exports_exact`: every exported track, seen as absolute ticks, is its header text events, then a
tick-ordered body that is a permutation of what the property text prescribes, then the end of track at
the end of the last bar.  The way there: the event lists the exports sort and emit are, up to order, the
prescribed ones (`sigEvts_tm`, `all_key_perm`); the exports are applications of `emitTrack` to them
(`toSMF0_dom`, `toSMF1_dom`); `emitTrack_shape` three times.
-/
namespace Midi.Sequencer
open Midi Midi.Smf

def proj (k : Nat × Nat × Msg) : Nat × Msg := (k.1, k.2.2)

theorem tm_eq_proj_key : tm = proj ∘ key := rfl

theorem map_tm (l : List TEv) : l.map tm = (l.map key).map proj := by
  rw [List.map_map]; rfl

theorem filter_track_perm {l₁ l₂ : List TEv} (h : (l₁.map key).Perm (l₂.map key)) (n : Nat) :
    ((l₁.filter (fun e => e.trackNo = n)).map tm).Perm ((l₂.filter (fun e => e.trackNo = n)).map tm) := by
  have hf : ∀ l : List TEv, (l.filter (fun e => e.trackNo = n)).map key = (l.map key).filter (fun k => k.2.1 = n) :=
    fun l => by rw [List.filter_map]; rfl
  rw [map_tm, map_tm, hf, hf]
  exact (h.filter _).map proj

theorem foldl_addTrack (f : Nat → Track) : ∀ (l : List Nat) (sm : File),
    (l.foldl (fun sm n => sm.addTrack (f n)) sm).tracks = sm.tracks ++ l.map f ∧
    (l.foldl (fun sm n => sm.addTrack (f n)) sm).tf = sm.tf
  | [], sm => by simp
  | a :: r, sm => by
    obtain ⟨h1, h2⟩ := foldl_addTrack f r (sm.addTrack (f a))
    simp only [List.foldl_cons, h1, h2]
    simp [File.addTrack]

theorem eventTrack_eq (names : List Bytes) (L : Nat) (sorted : List TEv) (n : Nat) :
    eventTrack names L sorted n =
      emitTrack (hdrEvs [metaSeqName (trackName names n)] ++ sorted.filter (fun e => e.trackNo = n)) L := by
  simp only [eventTrack, addTrackNo_eq, addAll_hdr]
  rfl

def hdr0 (s : Song) : List Msg := [metaText s.title, metaCopyright s.composer]
/-- `[0x62, 0x61, 0x72, 0x73]` = "bars" -/
def hdrBars (s : Song) : List Msg := [metaText s.title, metaCopyright s.composer, metaSeqName [0x62, 0x61, 0x72, 0x73]]
def hdrTrack (s : Song) (n : Nat) : List Msg := [metaSeqName (trackName s.trackNames n)]

theorem hdr_class (s : Song) (n : Nat) (m : Msg) (hm : m ∈ hdr0 s ∨ m ∈ hdrBars s ∨ m ∈ hdrTrack s n) :
    isEvent (0, m) = false ∧ isMeter (0, m) = false ∧ isEOT (0, m) = false := by
  simp only [hdr0, hdrBars, hdrTrack, List.mem_cons, List.mem_nil_iff, or_false] at hm
  rcases hm with (rfl | rfl) | (rfl | rfl | rfl) | rfl <;> exact metaMsg_class _ _ _ (by decide) (by decide)

section
variable (s : Song) (hd : Dom s) (srt : List TEv → List TEv)
include hd

theorem mkBarLine_eq :
    mkBarLine (tq s) s.bars =
      some (laid (tq s) 0 s.bars, songEnd s, setDeltas 0 (sigEvts (4, 4) (laid (tq s) 0 s.bars))) := by
  simp only [mkBarLine, place_eq (tq s) s.bars 0 hd.sigs, songEnd]

theorem sigEvts_tm : (sigEvts (4, 4) (laid (tq s) 0 s.bars)).map tm = specSigs s := by
  rw [sigEvts_eq _ _ (dom_placed_sig s hd), List.map_map]
  exact List.map_id _

theorem sigEvts_sorted : (sigEvts (4, 4) (laid (tq s) 0 s.bars)).Pairwise (fun a b => a.abs ≤ b.abs) := by
  have := (specSigs_strict s hd).imp (fun h => Nat.le_of_lt h)
  rwa [← sigEvts_tm s hd, List.pairwise_map] at this

theorem toSMF0_dom :
    toSMF0 srt s = some ⟨0, .metric (if s.ticks = 0 then 960 else s.ticks),
      [emitTrack (hdrEvs (hdr0 s) ++ srt (setDeltas 0 (sigEvts (4, 4) (laid (tq s) 0 s.bars)) ++
        (laid (tq s) 0 s.bars).flatMap (trackEvents srt (tq s)))) (songEnd s)]⟩ := by
  simp only [toSMF0, (t32_eq s hd.res).1, mkBarLine_eq s hd, addAll_hdr]
  rfl

variable (hs : SortSpec srt)
include hs

theorem all_key_perm :
    ((laid (tq s) 0 s.bars).flatMap (trackEvents srt (tq s))).map key |>.Perm
      ((specEvents (tq s) (laid (tq s) 0 s.bars)).map key) := by
  simp only [specEvents, List.map_flatMap]
  apply List.flatMap_perm
  intro sb hsb
  have hev : sb.2.events.flatMap (evTEvs (tq s) sb.1) = sb.2.events.flatMap (evSpec (tq s) sb.1) :=
    congrArg List.flatten (List.map_congr_left fun e he => by
      obtain ⟨h1, h2, h3, _⟩ := dom_event s hd sb hsb e he
      exact evTEvs_eq _ _ _ (dom_t s hd).1 (dom_t s hd).2 (by omega) h3)
  simp only [trackEvents, setDeltas_map key (fun _ _ => rfl), hev]
  have := ((hs (sb.2.events.flatMap (evSpec (tq s) sb.1))).1).map key
  simpa [List.map_flatMap] using this

theorem trackNos_all :
    trackNos ((laid (tq s) 0 s.bars).flatMap (trackEvents srt (tq s))) = usedTracks s :=
  trackNos_perm (by
    have := (all_key_perm s hd srt hs).map (fun k => k.2.1)
    rw [List.map_map, List.map_map] at this
    exact this)

theorem toSMF1_dom :
    ∃ f, toSMF1 srt s = some f ∧ f.tf = .metric (if s.ticks = 0 then 960 else s.ticks) ∧
      f.tracks = emitTrack (hdrEvs (hdrBars s) ++ sigEvts (4, 4) (laid (tq s) 0 s.bars)) (songEnd s) ::
        (usedTracks s).map (fun n => emitTrack (hdrEvs (hdrTrack s n) ++
          (srt ((laid (tq s) 0 s.bars).flatMap (trackEvents srt (tq s)))).filter (fun e => e.trackNo = n)) (songEnd s)) := by
  refine ⟨_, by simp only [toSMF1, (t32_eq s hd.res).1, mkBarLine_eq s hd, addWithDeltas_setDeltas, addAll_hdr,
    trackNos_all s hd srt hs, eventTrack_eq]; rfl, ?_, ?_⟩
  · rw [(foldl_addTrack _ _ _).2]; rfl
  · rw [(foldl_addTrack _ _ _).1]; rfl

end

/-- Both exports succeed: `tr0` is the single track of the format-0 file, `bt` the bar track of the
    format-1 file and `g n` its event track for the used track number `n` (the event tracks follow the
    bar track in ascending order of their track numbers). -/
def ExportsTo (srt : List TEv → List TEv) (s : Song) (tr0 bt : Track) (g : Nat → Track) : Prop :=
  ∃ f0 f1 : File, toSMF0 srt s = some f0 ∧ toSMF1 srt s = some f1 ∧
    f0.tracks = [tr0] ∧ f1.tracks = bt :: (usedTracks s).map g ∧
    f0.tf = .metric (if s.ticks = 0 then 960 else s.ticks) ∧ f1.tf = .metric (if s.ticks = 0 then 960 else s.ticks)

theorem exports_exact (s : Song) (srt : List TEv → List TEv) (hd : Dom s) (hs : SortSpec srt)
    (tr0 bt : Track) (g : Nat → Track) (h : ExportsTo srt s tr0 bt g) :
    Shape tr0 (hdr0 s) (specSigs s ++ specAll s) (songEnd s) ∧
    Shape bt (hdrBars s) (specSigs s) (songEnd s) ∧
    ∀ n ∈ usedTracks s, Shape (g n) (hdrTrack s n) (specOn s n) (songEnd s) := by
  -- the tracks are the `emitTrack`s of `toSMF0_dom`, `toSMF1_dom`
  obtain ⟨f0, f1, e0, e1, t0, t1, _, _⟩ := h
  obtain ⟨f, e1', _, t1'⟩ := toSMF1_dom s hd srt hs
  rw [toSMF0_dom s hd srt] at e0
  cases e0
  cases t0
  rw [e1] at e1'
  cases e1'
  rw [t1] at t1'
  obtain ⟨rfl, hg⟩ := List.cons.inj t1'
  have hg := List.map_inj_left.1 hg
  -- their events are the prescribed ones
  have hkey := all_key_perm s hd srt hs
  have hall : ((setDeltas 0 (sigEvts (4, 4) (laid (tq s) 0 s.bars)) ++
      (laid (tq s) 0 s.bars).flatMap (trackEvents srt (tq s))).map tm).Perm (specSigs s ++ specAll s) := by
    rw [List.map_append, setDeltas_map tm (fun _ _ => rfl), sigEvts_tm s hd, specAll, map_tm, map_tm (specEvents _ _)]
    exact (List.Perm.refl _).append (hkey.map proj)
  refine ⟨emitTrack_shape _ _ _ _ hd.fits (fun m hm => hdr_class s 0 m (.inl hm)) (hs _).2
      (((hs _).1.map tm).trans hall) (spec_good s hd),
    emitTrack_shape _ _ _ _ hd.fits (fun m hm => hdr_class s 0 m (.inr (.inl hm))) (sigEvts_sorted s hd)
      (by rw [sigEvts_tm s hd]) (fun x hx => spec_good s hd x (List.mem_append_left _ hx)), fun n hn => ?_⟩
  rw [hg n hn]
  exact emitTrack_shape _ _ _ _ hd.fits (fun m hm => hdr_class s n m (.inr (.inr hm)))
    ((hs _).2.filter _) (filter_track_perm (((hs _).1.map key).trans hkey) n)
    (fun x hx => spec_good s hd x (List.mem_append_right _ (specOn_sub s n x hx)))

end Midi.Sequencer
