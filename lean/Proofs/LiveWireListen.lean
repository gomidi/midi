import Proofs.LiveWireItem
import Proofs.LiveInv
/-!
# What the listener of `midi.ListenTo` receives for a wire item, then for an item sequence (all listen options on)

Per item: the raw frames of `Proofs/LiveWireItem.lean` reach the listener as the item's messages (`listen_item`).
Sequences: from a decoder between messages (`listen_from_clean`), from ANY decoder state if the first item carries its
own status byte (`listen_from_any`); every state whose mode is clean that a byte stream reaches is one between messages
(`reachable_clean`, by the invariant of `Proofs/LiveInv.lean`).
-/
namespace Midi.LiveWire
open Midi.Live

theorem listenFrames_nil (c : Cfg) : listenFrames c [] = [] := rfl

theorem listen_gap (c : Cfg) (hc : AllOn c) (g : Gap) (hg : gapOk g = true) :
    ∀ t : Int, listenFrames c (gapMsgs t g) = delivered (gapMsgs t g) := by
  induction g with
  | nil => intro t; rfl
  | cons x g ih =>
    intro t
    cases x with
    | byte b =>
      simp only [gapOk, Bool.and_eq_true, decide_eq_true_eq] at hg
      simp only [gapMsgs]
      rw [listenFrames_cons c _ _ [b] (keep_allOn c hc _) (retype_rt b [] hg.1), ih hg.2]
      rfl
    | tick d =>
      simp only [gapOk] at hg
      simp only [gapMsgs]
      exact ih hg _

theorem listen_body (c : Cfg) (hc : AllOn c) (body : Body) (hb : bodyOk body = true) :
    ∀ t : Int, listenFrames c (bodyMsgs t body) = delivered (bodyMsgs t body) := by
  induction body with
  | nil => intro t; rfl
  | cons p r ih =>
    obtain ⟨g, d⟩ := p
    intro t
    obtain ⟨hg, _, hr⟩ := bodyOk_cons hb
    simp only [bodyMsgs]
    rw [listenFrames_append, delivered_append, listen_gap c hc g hg, ih hr]

/-- `retype` of a reader frame is the message itself, without the padding zeros -/
theorem retype_frame_chan (st : Nat) (body : Body) (h1 : 0x80 ≤ st) (h2 : st ≤ 0xEF)
    (hlen : body.length = chanLen st) (hb : bodyOk body = true) :
    retype (pad3 (st :: bodyData body)) = some (some (st :: bodyData body)) := by
  unfold chanLen at hlen
  by_cases hc : 0xC0 ≤ st ∧ st ≤ 0xDF
  · rw [if_pos (by omega)] at hlen
    obtain ⟨g, d, rfl, _, hd⟩ := body_one hlen hb
    exact (retype_chan st d 0 [] h1 h2 hd (by omega)).trans (by rw [if_pos hc]; rfl)
  · rw [if_neg (by omega)] at hlen
    obtain ⟨g1, d1, g2, d2, rfl, _, hd1, _, hd2⟩ := body_two hlen hb
    exact (retype_chan st d1 d2 [] h1 h2 hd1 hd2).trans (by rw [if_neg hc]; rfl)

theorem retype_frame_sysc (st : Nat) (body : Body) (hl : syscLen st = some body.length) (hb : bodyOk body = true) :
    retype (pad3 (st :: bodyData body)) = some (some (st :: bodyData body)) := by
  rcases syscLen_cases hl with ⟨hst, hn⟩ | ⟨rfl, hn⟩ | ⟨rfl, hn⟩
  · obtain ⟨g, d, rfl, _, hd⟩ := body_one hn hb
    rcases hst with rfl | rfl
    · exact retype_F1 d _ hd
    · exact retype_F3 d _ hd
  · obtain ⟨g1, d1, g2, d2, rfl, _, hd1, _, hd2⟩ := body_two hn hb
    exact retype_F2 d1 d2 _ hd1 hd2
  · rw [List.length_eq_zero_iff.mp hn]
    exact retype_F6 _

theorem listen_item (c : Cfg) (hc : AllOn c) (run : Nat) (t : Int) (it : Item) (hok : it.ok c.bufSize run = true) :
    listenFrames c (it.raw t) = delivered (it.msgs t) := by
  have hk := keep_allOn c hc
  cases it with
  | rt b =>
    simp only [Item.ok, decide_eq_true_eq] at hok
    simp only [Item.raw, Item.msgs]
    rw [listenFrames_cons c _ _ [b] (hk _) (retype_rt b [] hok)]
    rfl
  | tick d => rfl
  | chan st e body =>
    simp only [Item.ok, Bool.and_eq_true, decide_eq_true_eq] at hok
    obtain ⟨⟨⟨⟨h1, h2⟩, _⟩, hlen⟩, hb⟩ := hok
    simp only [Item.raw, Item.msgs]
    rw [listenFrames_append, delivered_append, listen_body c hc body hb,
      listenFrames_cons c _ _ _ (hk _) (retype_frame_chan st body h1 h2 hlen hb)]
    rfl
  | sysc st body =>
    simp only [Item.ok, Bool.and_eq_true, decide_eq_true_eq] at hok
    obtain ⟨hl, hb⟩ := hok
    simp only [Item.raw, Item.msgs]
    rw [listenFrames_append, delivered_append, listen_body c hc body hb,
      listenFrames_cons c _ _ _ (hk _) (retype_frame_sysc st body hl hb)]
    rfl
  | sysex body last =>
    simp only [Item.ok, Bool.and_eq_true, decide_eq_true_eq] at hok
    obtain ⟨⟨hb, hg⟩, _⟩ := hok
    simp only [Item.raw, Item.msgs]
    rw [listenFrames_append, listenFrames_append, delivered_append, delivered_append, listen_body c hc body hb,
      listen_gap c hc last hg, listenFrames_cons c _ _ _ (hk _) (retype_sysex _)]
    rfl

theorem listen_item_from_clean (c : Cfg) (hc : AllOn c) (s : St) (run : Nat) (t : Int) (it : Item)
    (hs : Clean s run t) (hok : it.ok c.bufSize run = true) :
    listenFrames c (feed c s it.toks).2 = delivered (it.msgs t) ∧
      Clean (feed c s it.toks).1 (it.runAfter run) (t + it.time) := by
  obtain ⟨s', e, cl⟩ := feed_item c hc.1 s run t it hs hok
  rw [e]
  exact ⟨listen_item c hc run t it hok, cl⟩

theorem listen_item_from_any (c : Cfg) (hc : AllOn c) (s : St) (run : Nat) (it : Item)
    (hex : startsExplicit [it] = true) (hok : it.ok c.bufSize run = true) :
    listenFrames c (feed c s it.toks).2 = delivered (it.msgs s.ts) ∧
      Clean (feed c s it.toks).1 (it.runAfter run) (s.ts + it.time) := by
  obtain ⟨s', e, cl⟩ := feed_item_explicit c hc.1 s run it hex hok
  rw [e]
  exact ⟨listen_item c hc run s.ts it hok, cl⟩

theorem listen_from_clean (c : Cfg) (hc : AllOn c) (items : List Item) :
    ∀ (s : St) (run : Nat) (t : Int), Clean s run t → wfFrom c.bufSize run items = true →
      listenFrames c (feed c s (wireToks items)).2 = delivered (expectedFrom t items) := by
  induction items with
  | nil => intro _ _ _ _ _; rfl
  | cons it r ih =>
    intro s run t hs hwf
    simp only [wfFrom, Bool.and_eq_true] at hwf
    obtain ⟨e, cl⟩ := listen_item_from_clean c hc s run t it hs hwf.1
    simp only [wireToks, expectedFrom]
    rw [feed_append, listenFrames_append, delivered_append, e, ih _ _ _ cl hwf.2]

theorem listen_from_any (c : Cfg) (hc : AllOn c) (items : List Item) (s : St) (run : Nat)
    (hex : startsExplicit items = true) (hwf : wfFrom c.bufSize run items = true) :
    listenFrames c (feed c s (wireToks items)).2 = delivered (expectedFrom s.ts items) := by
  match items, hex, hwf with
  | it :: r, hex, hwf =>
    simp only [wfFrom, Bool.and_eq_true] at hwf
    have hex' : startsExplicit [it] = true := by
      cases it <;> exact hex
    obtain ⟨e, cl⟩ := listen_item_from_any c hc s run it hex' hwf.1
    simp only [wireToks, expectedFrom]
    rw [feed_append, listenFrames_append, delivered_append, e, listen_from_clean c hc r _ _ _ cl hwf.2]

/-- decoding is compositional: what a legal sequence delivers is what its part before an item delivers, then that
    item's messages, then the rest — each part from the clock its predecessors leave -/
theorem listen_split (c : Cfg) (hc : AllOn c) (pre post : List Item) (it : Item)
    (h : WF c.bufSize (pre ++ it :: post)) :
    it.ok c.bufSize (runAfterAll 0 pre) = true ∧
    listen c (wireToks (pre ++ it :: post)) =
      listen c (wireToks pre) ++ delivered (it.msgs (tickSum (wireToks pre))) ++
        delivered (expectedFrom (tickSum (wireToks pre) + it.time) post) := by
  have hw := h
  unfold WF at hw
  rw [wfFrom_append] at hw
  simp only [wfFrom, Bool.and_eq_true] at hw
  refine ⟨hw.2.1, ?_⟩
  unfold listen
  rw [listen_from_clean c hc _ init 0 0 clean_init h, listen_from_clean c hc pre init 0 0 clean_init hw.1,
    expectedFrom_append, expectedFrom]
  simp [delivered]

theorem listen_snoc (c : Cfg) (pre : List Tok) (b : Nat) :
    listen c (pre ++ [Tok.byte b]) = listen c pre ++ listenFrames c (step c (feed c init pre).1 b).2 := by
  rw [listen_append, feed_cons, feed_nil]
  simp [stepTok]

/-- by the invariant a running status comes with its type nibble, and a first data byte is pending only inside a message -/
theorem Clean.of_inv {c : Cfg} {s : St} (hi : Inv c s) (hm : s.mode = .clean) : Clean s s.status s.ts :=
  ⟨hm, rfl, rfl, fun hs => (hi.typ_of_status hs).1, fun _ => pend_none_of c s hi (by simp [hm]) (by simp [hm])⟩

theorem reachable_clean (c : Cfg) (g : List Tok) (hm : (feed c init g).1.mode = .clean) :
    Clean (feed c init g).1 (feed c init g).1.status (tickSum g) :=
  feed_init_ts c g ▸ Clean.of_inv (feed_inv c g init (init_inv c)).1 hm

end Midi.LiveWire
