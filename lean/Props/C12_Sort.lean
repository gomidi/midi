import MidiModel.Generated.SortKeysGo
import Proofs.GoSem
/-!
# C12, tie to the source: the comparison `sort.Stable` is given in `MultiPlay` — `player.Less` (`smf/track.go`) as
translated — orders by the scheduled time alone, strictly: equal times compare as "not less" in both directions, which is
what makes the stable sort keep the collection order (= file order within a track) among them. The model's comparison
`Play.le` (`MidiModel/Play.lean`) is written by hand as `¬ Less b a` on this key; no theorem ties the two. (That the call is
`sort.Stable` and not `sort.Sort` is a regenerated fact, see `Props/C12.lean`.)
-/
namespace Midi.C12
open Midi Midi.Go

theorem code_player_Less (p : List smf.playEvent) (a b : Nat) (ha : a < p.length) (hb : b < p.length) :
    smf.player.Less p (a : Int) (b : Int) = .ok (decide (p[a].absTime < p[b].absTime)) := by
  simp only [smf.player.Less, Go.idx_some (List.getElem?_eq_getElem ha), Go.idx_some (List.getElem?_eq_getElem hb),
    pure_bind]
  rfl

theorem code_player_Less_ties (p : List smf.playEvent) (a b : Nat) (ha : a < p.length) (hb : b < p.length)
    (h : p[a].absTime = p[b].absTime) :
    smf.player.Less p (a : Int) (b : Int) = .ok false ∧ smf.player.Less p (b : Int) (a : Int) = .ok false := by
  rw [code_player_Less p a b ha hb, code_player_Less p b a hb ha, h]
  simp

theorem code_player_Less_oob (p : List smf.playEvent) (a b : Nat) (ha : p.length ≤ a) :
    ∃ e, smf.player.Less p (a : Int) (b : Int) = .error e := by
  simp only [smf.player.Less, Go.idx_none (List.getElem?_eq_none ha)]
  exact ⟨_, rfl⟩

theorem code_player_Len (p : List smf.playEvent) : smf.player.Len p = (p.length : Int) := rfl

end Midi.C12
