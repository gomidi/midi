import MidiModel.Generated.SortKeysGo
import Proofs.GoSem
/-!
# C16, tie to the source: the comparison `ConvertToSMF1` hands to `sort.Sort(metaTrack)` — `TrackEvents.Less`
(`smf/track.go`) as translated — orders by the absolute tick alone, strictly. The events are collected in non-decreasing tick
order, so under this key the sequence is already sorted and events on one tick are unordered in both directions (`…_ties`);
that Go's `sort.Sort` leaves such a sequence as it is belongs to the trusted base (DESIGN §4). The model
(`MidiModel/Convert.lean`) accordingly has no sort at this place.
-/
namespace Midi.C16
open Midi Midi.Go

theorem code_TrackEvents_Less (p : List smf.TrackEvent) (a b : Nat) (ha : a < p.length) (hb : b < p.length) :
    smf.TrackEvents.Less p (a : Int) (b : Int) = .ok (decide (p[a].AbsTicks < p[b].AbsTicks)) := by
  simp only [smf.TrackEvents.Less, Go.idx_some (List.getElem?_eq_getElem ha), Go.idx_some (List.getElem?_eq_getElem hb),
    pure_bind]
  rfl

theorem code_TrackEvents_Less_ties (p : List smf.TrackEvent) (a b : Nat) (ha : a < p.length) (hb : b < p.length)
    (h : p[a].AbsTicks = p[b].AbsTicks) :
    smf.TrackEvents.Less p (a : Int) (b : Int) = .ok false ∧ smf.TrackEvents.Less p (b : Int) (a : Int) = .ok false := by
  rw [code_TrackEvents_Less p a b ha hb, code_TrackEvents_Less p b a hb ha, h]
  simp

theorem code_TrackEvents_Less_oob (p : List smf.TrackEvent) (a b : Nat) (ha : p.length ≤ a) :
    ∃ e, smf.TrackEvents.Less p (a : Int) (b : Int) = .error e := by
  simp only [smf.TrackEvents.Less, Go.idx_none (List.getElem?_eq_none ha)]
  exact ⟨_, rfl⟩

theorem code_TrackEvents_Len (p : List smf.TrackEvent) : smf.TrackEvents.Len p = (p.length : Int) := rfl

end Midi.C16
