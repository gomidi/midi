import MidiModel.Msg
import Props.C08_Code
import Props.C07_Code
import Props.C07
import Proofs.GoSem
/-!
# C07, tie to the source: the fourteen accessors of `midi.Message` (`message.go`: `GetNoteOn` … `GetSysEx`) as translated
are the model's accessors — for every byte string, for every choice of nil and non-nil out-parameters, and whatever the
caller's variables held before: `false` leaves them alone, `true` writes exactly the non-nil ones, a panic exactly where
the model says so (nowhere: `Props/C08.lean`). `GetSysEx` is tied for messages shorter than 2^62 bytes, where `len(m) - 1`
is computed in `int` without a wrap.
-/
namespace Midi.C07
open Midi Midi.Go Midi.Msg

/-- A pointer out-parameter `p *T` is translated as a flag `p_nil` and the pointee's value on entry, and the pointees' final
    values follow the function's result. `sel nil old new` is what the caller's variable holds after the call: untouched
    behind a nil pointer. -/
def sel {α : Type} (isNil : Bool) (old new : α) : α := if isNil then old else new

/-- An accessor that opens with `Is(T)` and a test of the length, in the model (`hr`) and in the Go text (`hc`; what follows
    the two guards is left to unification). Whatever is claimed (`P`) of the two outcomes is to be shown where both refuse
    and, on the live length, of what follows the guards. Hand `hr` and `hc` over as `(by rfl)`: a tactic block runs once
    `T`, `L`, `r` and `c` are known, a plain `rfl` is unified against metavariables first, which is slow. -/
@[elab_as_elim]
theorem guard_len_of {α β : Type} {P : Res α → Except String β → Prop} (T : Int) (L : Nat) {m : Bytes} {body : Res α}
    {F : β} {rest : Except String β} (r : Res α) (c : Except String β)
    (hr : r = match msgIs .midi m T with
      | none => .panic | some false => .no | some true => if m.length ≠ L then .no else body)
    (hc : c = midi.Message.Is m T >>= fun is =>
      if ¬ is = true then pure F else if (m.length : Int) ≠ L then pure F else rest)
    (no : P .no (pure F)) (live : m.length = L → P body rest) : P r c := by
  obtain ⟨b, hb, hI⟩ := Midi.C08.code_Is m T
  rw [hr, hc, hb, Go.bind_eq_of_pure hI]
  cases b
  · exact no
  · by_cases hl : m.length = L
    · have hl' : ¬ (m.length : Int) ≠ L := not_not_intro (congrArg Nat.cast hl)
      rw [if_neg (not_not_intro hl), if_neg (not_not_intro rfl), if_neg hl']
      exact live hl
    · have hl' : (m.length : Int) ≠ L := fun h => hl (Int.natCast_inj.1 h)
      rw [if_pos hl, if_neg (not_not_intro rfl), if_pos hl']
      exact no

/-- the shape of `GetNoteOn`, `GetNoteOff`, `GetPolyAfterTouch`, `GetControlChange` -/
abbrev Get3 := Bytes → Bool → Nat → Bool → Nat → Bool → Nat → Except String (Bool × Nat × Nat × Nat)
def Spec3 (model : Bytes → Res (Nat × Nat × Nat)) (code : Get3) : Prop :=
  ∀ (m : Bytes) (cn kn vn : Bool) (c0 k0 v0 : Nat),
    match model m with
    | .panic => ∃ e, code m cn c0 kn k0 vn v0 = .error e
    | .no => code m cn c0 kn k0 vn v0 = .ok (false, c0, k0, v0)
    | .yes (c, k, v) => code m cn c0 kn k0 vn v0 = .ok (true, sel cn c0 c, sel kn k0 k, sel vn v0 v)

theorem Spec3.yes {model : Bytes → Res (Nat × Nat × Nat)} {code : Get3} (h : Spec3 model code) {m : Bytes} {c k v : Nat}
    (hm : model m = .yes (c, k, v)) (cn kn vn : Bool) (c0 k0 v0 : Nat) :
    code m cn c0 kn k0 vn v0 = .ok (true, sel cn c0 c, sel kn k0 k, sel vn v0 v) := by
  have := h m cn kn vn c0 k0 v0
  rw [hm] at this
  exact this

theorem code_GetNoteOn : Spec3 getNoteOn midi.Message.GetNoteOn := by
  intro m cn kn vn c0 k0 v0
  refine guard_len_of NoteOnMsg 3 (getNoteOn m) (midi.Message.GetNoteOn m cn c0 kn k0 vn v0)
    (by rfl) (by rfl) rfl fun hl => ?_
  match m, hl with
  | [s, a, d], _ => cases cn <;> cases kn <;> cases vn <;> rfl

theorem code_GetNoteOff : Spec3 getNoteOff midi.Message.GetNoteOff := by
  intro m cn kn vn c0 k0 v0
  refine guard_len_of NoteOffMsg 3 (getNoteOff m) (midi.Message.GetNoteOff m cn c0 kn k0 vn v0)
    (by rfl) (by rfl) rfl fun hl => ?_
  match m, hl with
  | [s, a, d], _ => cases cn <;> cases kn <;> cases vn <;> rfl

theorem code_GetPolyAfterTouch : Spec3 getPolyAfterTouch midi.Message.GetPolyAfterTouch := by
  intro m cn kn vn c0 k0 v0
  refine guard_len_of PolyAfterTouchMsg 3 (getPolyAfterTouch m) (midi.Message.GetPolyAfterTouch m cn c0 kn k0 vn v0)
    (by rfl) (by rfl) rfl fun hl => ?_
  match m, hl with
  | [s, a, d], _ => cases cn <;> cases kn <;> cases vn <;> rfl

theorem code_GetControlChange : Spec3 getControlChange midi.Message.GetControlChange := by
  intro m cn kn vn c0 k0 v0
  refine guard_len_of ControlChangeMsg 3 (getControlChange m) (midi.Message.GetControlChange m cn c0 kn k0 vn v0)
    (by rfl) (by rfl) rfl fun hl => ?_
  match m, hl with
  | [s, a, d], _ => cases cn <;> cases kn <;> cases vn <;> rfl

/-- the shape of `GetAfterTouch`, `GetProgramChange` -/
abbrev Get2 := Bytes → Bool → Nat → Bool → Nat → Except String (Bool × Nat × Nat)
def Spec2 (model : Bytes → Res (Nat × Nat)) (code : Get2) : Prop :=
  ∀ (m : Bytes) (cn pn : Bool) (c0 p0 : Nat),
    match model m with
    | .panic => ∃ e, code m cn c0 pn p0 = .error e
    | .no => code m cn c0 pn p0 = .ok (false, c0, p0)
    | .yes (c, p) => code m cn c0 pn p0 = .ok (true, sel cn c0 c, sel pn p0 p)

theorem Spec2.yes {model : Bytes → Res (Nat × Nat)} {code : Get2} (h : Spec2 model code) {m : Bytes} {c p : Nat}
    (hm : model m = .yes (c, p)) (cn pn : Bool) (c0 p0 : Nat) :
    code m cn c0 pn p0 = .ok (true, sel cn c0 c, sel pn p0 p) := by
  have := h m cn pn c0 p0
  rw [hm] at this
  exact this

theorem code_GetAfterTouch : Spec2 getAfterTouch midi.Message.GetAfterTouch := by
  intro m cn pn c0 p0
  refine guard_len_of AfterTouchMsg 2 (getAfterTouch m) (midi.Message.GetAfterTouch m cn c0 pn p0)
    (by rfl) (by rfl) rfl fun hl => ?_
  match m, hl with
  | [s, a], _ => cases cn <;> cases pn <;> rfl

theorem code_GetProgramChange : Spec2 getProgramChange midi.Message.GetProgramChange := by
  intro m cn pn c0 p0
  refine guard_len_of ProgramChangeMsg 2 (getProgramChange m) (midi.Message.GetProgramChange m cn c0 pn p0)
    (by rfl) (by rfl) rfl fun hl => ?_
  match m, hl with
  | [s, a], _ => cases cn <;> cases pn <;> rfl

/-! `ParsePitchWheelVals` as a pair of two functions: a projection of the call itself makes the kernel unfold the bit
operations on variables when it checks `simp`'s definitional steps, a pair of opaque applications does not. -/
def pwAbs (b1 b2 : Nat) : Nat := (((b2 &&& 0x7f) <<< 7) % 65536) ||| (b1 &&& 0x7f)
def pwRel (b1 b2 : Nat) : Int :=
  ((if pwAbs b1 b2 < 32768 then (pwAbs b1 b2 : Int) else (pwAbs b1 b2 : Int) - 65536) - 0x2000 + 32768) % 65536 - 32768
theorem pw_pair (b1 b2 : Nat) : parsePitchWheelVals b1 b2 = (pwRel b1 b2, pwAbs b1 b2) := rfl
theorem code_pw (b1 b2 : Nat) : utils.ParsePitchWheelVals b1 b2 = (pwRel b1 b2, pwAbs b1 b2) := by
  rw [code_ParsePitchWheelVals, pw_pair]

/-- evaluation of the translated accessor bodies on a list of known shape, in stages -/
macro "eval_get" h:ident : tactic => `(tactic| (
  simp only [code_pw, pw_pair]
  simp only [$h:ident, bind, Except.bind, pure, Except.pure, Go.idx, throw, throwThe, MonadExceptOf.throw]
  simp only [List.length_cons, List.length_nil]
  try simp only [not_true_eq_false, not_false_eq_true, ↓reduceIte, Nat.zero_add, Nat.reduceAdd, Int.cast_ofNat_Int, ne_eq,
    Std.le_refl, Int.toNat_zero, Nat.zero_lt_succ, getElem?_pos, List.getElem_cons_zero, Bool.false_eq_true,
    Bool.true_eq_false, Int.zero_le_ofNat, Int.toNat_one, Nat.reduceLT, List.getElem_cons_succ, Int.reduceToNat,
    Nat.lt_add_one, List.getElem?_cons_zero, List.getElem?_cons_succ, List.getElem?_nil, code_ParseStatus, sel,
    or_self, or_true, true_or, or_false, false_or, Int.reduceEq, Int.reduceNeg, Int.natCast_add, Int.cast_ofNat_Int,
    Int.reduceAdd, reduceCtorEq, exists_const, Except.ok.injEq, Prod.mk.injEq, and_self, and_true, true_and]))

theorem code_GetPitchBend (m : Bytes) (cn rn an : Bool) (c0 : Nat) (r0 : Int) (a0 : Nat) :
    match getPitchBend m with
    | .panic => ∃ e, midi.Message.GetPitchBend m cn c0 rn r0 an a0 = .error e
    | .no => midi.Message.GetPitchBend m cn c0 rn r0 an a0 = .ok (false, c0, r0, a0)
    | .yes (c, r, a) => midi.Message.GetPitchBend m cn c0 rn r0 an a0 = .ok (true, sel cn c0 c, sel rn r0 r, sel an a0 a) := by
  refine guard_len_of PitchBendMsg 3 (getPitchBend m) (midi.Message.GetPitchBend m cn c0 rn r0 an a0)
    (by rfl) (by rfl) rfl fun hl => ?_
  match m, hl with
  | [s, a, d], _ =>
    simp only [go_eval, code_pw, pw_pair]
    cases cn <;> cases rn <;> cases an <;> rfl

/-- the shape of `GetMTC`, `GetSongSelect`, `GetSPP`, `GetChannel` -/
abbrev Get1 := Bytes → Bool → Nat → Except String (Bool × Nat)
def Spec1 (model : Bytes → Res Nat) (code : Get1) : Prop :=
  ∀ (m : Bytes) (xn : Bool) (x0 : Nat),
    match model m with
    | .panic => ∃ e, code m xn x0 = .error e
    | .no => code m xn x0 = .ok (false, x0)
    | .yes x => code m xn x0 = .ok (true, sel xn x0 x)

theorem Spec1.yes {model : Bytes → Res Nat} {code : Get1} (h : Spec1 model code) {m : Bytes} {x : Nat}
    (hm : model m = .yes x) (xn : Bool) (x0 : Nat) : code m xn x0 = .ok (true, sel xn x0 x) := by
  have := h m xn x0
  rw [hm] at this
  exact this

theorem code_GetMTC : Spec1 getMTC midi.Message.GetMTC := by
  intro m xn x0
  refine guard_len_of MTCMsg 2 (getMTC m) (midi.Message.GetMTC m xn x0)
    (by rfl) (by rfl) rfl fun hl => ?_
  match m, hl with
  | [s, a], _ => cases xn <;> rfl

theorem code_GetSongSelect : Spec1 getSongSelect midi.Message.GetSongSelect := by
  intro m xn x0
  refine guard_len_of SongSelectMsg 2 (getSongSelect m) (midi.Message.GetSongSelect m xn x0)
    (by rfl) (by rfl) rfl fun hl => ?_
  match m, hl with
  | [s, a], _ => cases xn <;> rfl

theorem code_GetSPP : Spec1 getSPP midi.Message.GetSPP := by
  intro m xn x0
  refine guard_len_of SPPMsg 3 (getSPP m) (midi.Message.GetSPP m xn x0)
    (by rfl) (by rfl) rfl fun hl => ?_
  match m, hl with
  | [s, a, d], _ =>
    simp only [go_eval, code_pw, pw_pair]
    cases xn <;> rfl

theorem code_GetChannel : Spec1 getChannel midi.Message.GetChannel := by
  intro m xn x0
  obtain ⟨b, hb, hI⟩ := Midi.C08.code_Is m ChannelMsg
  unfold getChannel midi.Message.GetChannel
  rw [hb]
  cases b
  · simp only [go_eval, ↓reduceIte, ↓Go.bind_eq_of_pure hI]
    rfl
  · match m with
    | [] =>
      simp only [go_eval, ↓reduceIte, ↓Go.bind_eq_of_pure hI]
      rfl
    | s :: r =>
      have hlen : ¬ ((((s :: r).length : Nat) : Int) < 1) := by
        simp only [List.length_cons]
        omega
      have hlen' : ¬ (s :: r).length < 1 := by simp
      simp only [go_eval, ↓reduceIte, ↓Go.bind_eq_of_pure hI, hlen, hlen', List.getElem?_cons_zero]
      cases xn <;> rfl

/-- `GetSysEx(bt *[]byte)`: the payload between F0 and F7 -/
theorem code_GetSysEx (m : Bytes) (bn : Bool) (b0 : Bytes) (hlen : m.length < 4611686018427387904) :
    match getSysEx m with
    | .panic => ∃ e, midi.Message.GetSysEx m bn b0 = .error e
    | .no => midi.Message.GetSysEx m bn b0 = .ok (false, b0)
    | .yes d => if bn then ∃ e, midi.Message.GetSysEx m bn b0 = .error e   -- `*bt = …` through a nil pointer
                else midi.Message.GetSysEx m bn b0 = .ok (true, d) := by
  obtain ⟨b, hb, hI⟩ := Midi.C08.code_Is m SysExMsg
  unfold getSysEx midi.Message.GetSysEx
  by_cases h3 : m.length < 3
  · have h3' : (m.length : Int) < 3 := by omega
    simp only [h3, h3', ↓reduceIte]
    rfl
  · have h3' : ¬ (m.length : Int) < 3 := by omega
    rw [if_neg h3, hb]
    cases b
    · simp only [h3', go_eval, ↓reduceIte, ↓Go.bind_eq_of_pure hI]
      rfl
    · have hw : Go.wrapS 64 ((m.length : Int) - 1) = ((m.length - 1 : Nat) : Int) :=
        Go.wrapS64_sub (k := 1) (by omega) hlen
      obtain ⟨f, m0⟩ : ∃ f, m[0]? = some f := ⟨_, List.getElem?_eq_getElem (by omega)⟩
      obtain ⟨l, ml⟩ : ∃ l, m[m.length - 1]? = some l := ⟨_, List.getElem?_eq_getElem (by omega)⟩
      have ms : slice m 1 (m.length - 1) = some ((m.take (m.length - 1)).drop 1) := if_pos (by omega)
      have e0 : Go.idx m 0 = pure f := Go.idx_some m0
      have es : Go.slice m 1 ((m.length - 1 : Nat) : Int) = pure ((m.take (m.length - 1)).drop 1) :=
        Go.slice_eq (by decide) (by omega) (by omega)
      simp only [h3', go_eval, ↓reduceIte, ↓Go.bind_eq_of_pure hI, hw, ↓Go.bind_eq_of_pure e0, m0, ml, ms]
      by_cases hf : f = 240
      · simp only [hf, true_and, ↓reduceIte, ↓Go.bind_eq_of_pure (Go.idx_some ml)]
        by_cases hl7 : l = 247
        · simp only [hl7, decide_true, ↓reduceIte, pure_bind, ↓Go.bind_eq_of_pure es]
          cases bn
          · rfl
          · exact ⟨_, rfl⟩
        · simp only [hl7, decide_false, ↓reduceIte, pure_bind, go_eval]
          rfl
      · simp only [hf, false_and, ↓reduceIte, pure_bind, go_eval]
        rfl

/-- `GetNoteStart`: a note-on with velocity 0 is refused — after the channel and key pointers were written
    (`GetNoteOn(channel, key, &vel)` comes first); the velocity pointer is written only on `true` -/
theorem code_GetNoteStart (m : Bytes) (cn kn vn : Bool) (c0 k0 v0 : Nat) :
    match getNoteOn m with
    | .panic => ∃ e, midi.Message.GetNoteStart m cn c0 kn k0 vn v0 = .error e
    | .no => midi.Message.GetNoteStart m cn c0 kn k0 vn v0 = .ok (false, c0, k0, v0)
    | .yes (c, k, v) =>
      midi.Message.GetNoteStart m cn c0 kn k0 vn v0 =
        .ok (if v = 0 then (false, sel cn c0 c, sel kn k0 k, v0) else (true, sel cn c0 c, sel kn k0 k, sel vn v0 v)) := by
  have h := code_GetNoteOn m cn kn false c0 k0 0
  unfold midi.Message.GetNoteStart
  cases hg : getNoteOn m with
  | panic => exact absurd hg (get3_ne_panic _ m)
  | no =>
    rw [hg] at h
    simp only [go_eval, ↓reduceIte, ↓Go.bind_eq_of_pure h, true_or]
    rfl
  | yes t =>
    obtain ⟨c, k, v⟩ := t
    rw [hg] at h
    have hs : sel false 0 v = v := rfl
    simp only [go_eval, ↓Go.bind_eq_of_pure h, false_or, hs]
    by_cases hv : v = 0
    · rw [if_pos hv, if_pos hv]
      rfl
    · rw [if_neg hv, if_neg hv]
      cases vn <;> rfl

/-- … and in terms of the model's `getNoteStart` -/
theorem code_GetNoteStart_model (m : Bytes) (cn kn vn : Bool) (c0 k0 v0 : Nat) :
    match getNoteStart m with
    | .panic => ∃ e, midi.Message.GetNoteStart m cn c0 kn k0 vn v0 = .error e
    | .no => ∃ c k, midi.Message.GetNoteStart m cn c0 kn k0 vn v0 = .ok (false, c, k, v0)
    | .yes (c, k, v) => midi.Message.GetNoteStart m cn c0 kn k0 vn v0 = .ok (true, sel cn c0 c, sel kn k0 k, sel vn v0 v) := by
  have h := code_GetNoteStart m cn kn vn c0 k0 v0
  unfold getNoteStart
  cases hg : getNoteOn m with
  | panic => rw [hg] at h; exact h
  | no => rw [hg] at h; exact ⟨c0, k0, h⟩
  | yes t =>
    obtain ⟨c, k, v⟩ := t
    rw [hg] at h
    simp only [] at h ⊢
    by_cases hv : v = 0
    · simp only [hv, if_true] at h ⊢; exact ⟨_, _, h⟩
    · simp only [hv, if_false] at h ⊢; exact h

/-- `GetNoteEnd(channel, key *uint8)`: a note-off, or a note-on with velocity 0; `false` writes nothing (the two inner
    accessors fill local variables) -/
theorem code_GetNoteEnd (m : Bytes) (cn kn : Bool) (c0 k0 : Nat) :
    match getNoteEnd m with
    | .panic => ∃ e, midi.Message.GetNoteEnd m cn c0 kn k0 = .error e
    | .no => midi.Message.GetNoteEnd m cn c0 kn k0 = .ok (false, c0, k0)
    | .yes (c, k) => midi.Message.GetNoteEnd m cn c0 kn k0 = .ok (true, sel cn c0 c, sel kn k0 k) := by
  -- the Go text and the model ask the same questions in the same order, so it is enough to go through the answers,
  -- possible together or not: `Is(NoteOn)`, `Is(NoteOff)`, what the two inner accessors say, the nil flags
  obtain ⟨b1, hb1, hI1⟩ := Midi.C08.code_Is m NoteOnMsg
  obtain ⟨b2, hb2, hI2⟩ := Midi.C08.code_Is m NoteOffMsg
  have h1 := code_GetNoteOn m false false false 0 0 0
  have h2 := code_GetNoteOff m false false false 0 0 0
  have hs (x : Nat) : sel false 0 x = x := rfl
  unfold getNoteEnd noteEndBody midi.Message.GetNoteEnd
  rw [hb1, hb2]
  cases hg1 : getNoteOn m with
  | panic => exact absurd hg1 (get3_ne_panic _ m)
  | yes t =>
    obtain ⟨c, k, v⟩ := t
    rw [hg1] at h1
    by_cases hv : v = 0 <;> cases b1 <;> cases b2 <;>
      simp only [go_eval, ↓reduceIte, ↓Go.bind_eq_of_pure hI1, ↓Go.bind_eq_of_pure hI2, ↓Go.bind_eq_of_pure h1, hs, hv,
        pure_bind, decide_true, decide_false] <;>
      cases cn <;> cases kn <;> rfl
  | no =>
    rw [hg1] at h1
    cases hg2 : getNoteOff m with
    | panic => exact absurd hg2 (get3_ne_panic _ m)
    | no =>
      rw [hg2] at h2
      cases b1 <;> cases b2 <;>
        simp only [go_eval, ↓reduceIte, ↓Go.bind_eq_of_pure hI1, ↓Go.bind_eq_of_pure hI2, ↓Go.bind_eq_of_pure h1,
          ↓Go.bind_eq_of_pure h2, pure_bind, decide_true, decide_false] <;> rfl
    | yes t =>
      obtain ⟨c, k, v⟩ := t
      rw [hg2] at h2
      cases b1 <;> cases b2 <;>
        simp only [go_eval, ↓reduceIte, ↓Go.bind_eq_of_pure hI1, ↓Go.bind_eq_of_pure hI2, ↓Go.bind_eq_of_pure h1,
          ↓Go.bind_eq_of_pure h2, hs, pure_bind, decide_true, decide_false] <;>
        cases cn <;> cases kn <;> rfl

/-! ## The property on the translated code itself: constructor, then accessor

`midi.X(args)` followed by `m.GetX(&a, &b, &c)` (any of the pointers nil) — both as translated from the source — returns
`true` and leaves the clamped arguments in exactly the variables behind the non-nil pointers. -/

theorem code_roundtrip_NoteOn (ch k v : Nat) (cn kn vn : Bool) (c0 k0 v0 : Nat) :
    (midi.NoteOn ch k v >>= fun m => midi.Message.GetNoteOn m cn c0 kn k0 vn v0)
      = .ok (true, sel cn c0 (min ch 15), sel kn k0 (min k 127), sel vn v0 (min v 127)) := by
  rw [code_NoteOn]
  exact code_GetNoteOn.yes (getNoteOn_noteOn ch k v) cn kn vn c0 k0 v0

theorem code_roundtrip_NoteOffVelocity (ch k v : Nat) (cn kn vn : Bool) (c0 k0 v0 : Nat) :
    (midi.NoteOffVelocity ch k v >>= fun m => midi.Message.GetNoteOff m cn c0 kn k0 vn v0)
      = .ok (true, sel cn c0 (min ch 15), sel kn k0 (min k 127), sel vn v0 (min v 127)) := by
  rw [code_NoteOffVelocity]
  exact code_GetNoteOff.yes (getNoteOff_noteOffVelocity ch k v) cn kn vn c0 k0 v0

theorem code_roundtrip_PolyAfterTouch (ch k p : Nat) (cn kn pn : Bool) (c0 k0 p0 : Nat) :
    (midi.PolyAfterTouch ch k p >>= fun m => midi.Message.GetPolyAfterTouch m cn c0 kn k0 pn p0)
      = .ok (true, sel cn c0 (min ch 15), sel kn k0 (min k 127), sel pn p0 (min p 127)) := by
  rw [code_PolyAfterTouch]
  exact code_GetPolyAfterTouch.yes (getPolyAfterTouch_polyAfterTouch ch k p) cn kn pn c0 k0 p0

theorem code_roundtrip_ControlChange (ch c v : Nat) (cn kn vn : Bool) (c0 k0 v0 : Nat) :
    (midi.ControlChange ch c v >>= fun m => midi.Message.GetControlChange m cn c0 kn k0 vn v0)
      = .ok (true, sel cn c0 (min ch 15), sel kn k0 (min c 127), sel vn v0 (min v 127)) := by
  rw [code_ControlChange]
  exact code_GetControlChange.yes (getControlChange_controlChange ch c v) cn kn vn c0 k0 v0

theorem code_roundtrip_ProgramChange (ch p : Nat) (cn pn : Bool) (c0 p0 : Nat) :
    (midi.ProgramChange ch p >>= fun m => midi.Message.GetProgramChange m cn c0 pn p0)
      = .ok (true, sel cn c0 (min ch 15), sel pn p0 (min p 127)) := by
  rw [code_ProgramChange]
  exact code_GetProgramChange.yes (getProgramChange_programChange ch p) cn pn c0 p0

theorem code_roundtrip_AfterTouch (ch p : Nat) (cn pn : Bool) (c0 p0 : Nat) :
    (midi.AfterTouch ch p >>= fun m => midi.Message.GetAfterTouch m cn c0 pn p0)
      = .ok (true, sel cn c0 (min ch 15), sel pn p0 (min p 127)) := by
  rw [code_AfterTouch]
  exact code_GetAfterTouch.yes (getAfterTouch_afterTouch ch p) cn pn c0 p0

theorem code_roundtrip_Pitchbend (ch : Nat) (v : Int) (cn rn an : Bool) (c0 : Nat) (r0 : Int) (a0 : Nat) :
    (midi.Pitchbend ch v >>= fun m => midi.Message.GetPitchBend m cn c0 rn r0 an a0)
      = .ok (true, sel cn c0 (min ch 15), sel rn r0 (max (-8192) (min v 8191)),
             sel an a0 (max (-8192) (min v 8191) + 8192).toNat) := by
  obtain ⟨bs, hb, hg⟩ := getPitchBend_pitchbend ch v
  rw [code_Pitchbend, hb]
  have h := code_GetPitchBend bs cn rn an c0 r0 a0
  rw [hg] at h
  exact h

theorem code_roundtrip_SPP (p : Nat) (h : p < 16384) (xn : Bool) (x0 : Nat) :
    (midi.SPP p >>= fun m => midi.Message.GetSPP m xn x0) = .ok (true, sel xn x0 p) := by
  rw [code_SPP]
  exact code_GetSPP.yes (getSPP_spp_in_range p h) xn x0

theorem code_roundtrip_SongSelect (s : Nat) (xn : Bool) (x0 : Nat) :
    midi.Message.GetSongSelect (midi.SongSelect s) xn x0 = .ok (true, sel xn x0 (s % 128)) := by
  rw [code_SongSelect]
  exact code_GetSongSelect.yes (getSongSelect_songSelect s) xn x0

theorem code_roundtrip_MTC (q : Nat) (hq : q < 256) (xn : Bool) (x0 : Nat) :
    midi.Message.GetMTC (midi.MTC q) xn x0 = .ok (true, sel xn x0 (q % 128)) := by
  rw [code_MTC q hq]
  exact code_GetMTC.yes (getMTC_mtc q) xn x0

end Midi.C07
