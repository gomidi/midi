import Props.C01_Rs
/-!
# C03, tie to the source: the running-status writer of `internal/runningstatus` as translated is the running-status rule
of the writer model (proved in `Props/C01_Rs.lean`; repeated here because what C03's strict parser accepts rests on the
same code).
-/
namespace Midi.C03
open Midi Midi.Go

theorem code_rsWrite (rs b0 : Nat) (tl : Bytes) (h : ¬ (b0 = 0xF0 ∨ b0 = 0xF7)) :
    ∃ out rs', Smf.encMsg true rs (b0 :: tl) = some (out, rs') ∧
      runningstatus.smfwriter.Write ⟨rs⟩ (b0 :: tl) = .ok (⟨rs'⟩, out) :=
  Midi.C01.code_rsWrite rs b0 tl h

theorem code_rsReset (rs : Nat) : runningstatus.smfwriter.ResetStatus ⟨rs⟩ = .ok ⟨0⟩ := Midi.C01.code_rsReset rs

end Midi.C03
