import MidiModel.Smf
import MidiModel.Generated.SmfMetaGo
import Props.C03_Code
import Proofs.GoSem
/-!
# C01, tie to the source: the track API the histories of C01 are made of — `Track.IsClosed`, `Close`, `Add`
(`smf/track.go`, with the package variable `EOT` read as its initialiser `_MetaMessage(byteEndOfTrack, nil)` and
`reflect.DeepEqual` on two byte slices as equality) — as translated is the model's `Track.isClosed` / `close` / `add`
(`MidiModel/Smf.lean`), for every track of fewer than 2^62 events (`len(t) - 1` in `int`), every delta and list of messages.
(`Track.IsEmpty` is translated as well; the model has no counterpart and nothing is proved of it.)
-/
open Midi Midi.Go
namespace Midi.C01

theorem code_EOT : smf.u_MetaMessage 47 [] = .ok Smf.EOT := by
  unfold smf.u_MetaMessage
  rw [Go.toU_natCast, Midi.C03.code_VlqEncode _ (Nat.mod_lt _ (by decide))]
  rfl

def toGoEv (e : Smf.Event) : smf.Event := { Delta := e.delta, Message := e.msg }
def toGo (t : Smf.Track) : List smf.Event := t.map toGoEv

theorem code_IsClosed (t : Smf.Track) (h : t.length < 4611686018427387904) :
    smf.Track.IsClosed (toGo t) = .ok t.isClosed := by
  unfold smf.Track.IsClosed Smf.Track.isClosed
  rcases List.eq_nil_or_concat t with rfl | ⟨ini, e, rfl⟩
  · rfl
  · rw [List.concat_eq_append] at h ⊢
    have hl : (toGo (ini ++ [e])).length = ini.length + 1 := by simp [toGo]
    have hw : Go.wrapS 64 (((toGo (ini ++ [e])).length : Int) - (1 : Int)) = ((ini.length : Nat) : Int) := by
      rw [hl]
      exact Go.wrapS64_sub (k := 1) (Nat.le_add_left 1 _) (by simpa using h)
    have hg : (toGo (ini ++ [e]))[ini.length]? = some (toGoEv e) := by simp [toGo]
    have hn : ¬ (((toGo (ini ++ [e])).length : Int) = 0) := by rw [hl]; omega
    simp only [hn, hw, go_eval, ↓reduceIte, ↓Go.bind_eq_of_pure (Go.idx_some hg), ↓Go.bind_eq_of_pure code_EOT]
    rw [List.getLast?_concat]
    exact congrArg Except.ok (Bool.beq_eq_decide_eq e.msg Smf.EOT).symm

theorem code_Close (t : Smf.Track) (δ : Nat) (h : t.length < 4611686018427387904) :
    smf.Track.Close (toGo t) δ = .ok (toGo (t.close δ)) := by
  unfold smf.Track.Close Smf.Track.close
  simp only [go_eval, ↓Go.bind_eq_of_pure (code_IsClosed t h), ↓Go.bind_eq_of_pure code_EOT]
  cases t.isClosed <;> simp [toGo, toGoEv, pure, Except.pure]

theorem add_loop (msgs : List (List Nat)) : ∀ (acc : Smf.Track) (δ : Nat),
    (forIn msgs (toGo acc, δ) (fun msg (r : List smf.Event × Nat) =>
        (pure (ForInStep.yield (r.fst ++ [({ Delta := r.snd, Message := msg } : smf.Event)], 0)) : Except String _)))
      = pure (toGo (acc ++ Smf.addEvents δ msgs), if msgs = [] then δ else 0) := by
  induction msgs with
  | nil => intro acc δ; simp [Smf.addEvents]
  | cons m ms ih =>
    intro acc δ
    have hstep : toGo acc ++ [({ Delta := δ, Message := m } : smf.Event)] = toGo (acc ++ [⟨δ, m⟩]) := by
      simp [toGo, toGoEv]
    simp only [List.forIn_cons, pure_bind, hstep, ih]
    cases ms <;> simp [Smf.addEvents, List.append_assoc]

theorem code_Add (t : Smf.Track) (δ : Nat) (msgs : List (List Nat)) (h : t.length < 4611686018427387904) :
    smf.Track.Add (toGo t) δ msgs = .ok (toGo (t.add δ msgs)) := by
  unfold smf.Track.Add Smf.Track.add
  simp only [go_eval, ↓Go.bind_eq_of_pure (code_IsClosed t h), ↓Go.bind_eq_of_pure (add_loop msgs t δ)]
  cases t.isClosed <;> rfl

end Midi.C01
