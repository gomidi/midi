import Proofs.ReaderTie
/-!
# C04, tie to the source: the Lean translation of `v2/drivers/reader.go` refines the decoder model

`MidiModel/Generated/ReaderGo.lean` is regenerated from the working tree by `tools/go2lean` on every run; the theorems are
about that text. Trusted (DESIGN §4): that `tools/go2lean` and `MidiModel/GoSem.lean` render the Go subset faithfully, and
`Tie.newReader`, which renders `drivers.NewReader` (a struct literal with a closure) by hand.
-/
namespace Midi.C04
open Midi Midi.Live Midi.Go Midi.Tie

/-- For every configuration (`SysExBufferSize` is a `uint32`), every sequence of `EachMessage(bytes, Δ)` calls with
    bytes `< 256`: the translated reader does not panic and hands `OnMsg` exactly the frames of the model, in
    order, with the model's time stamp taken modulo 2^32 (the code's `int32` clock). -/
theorem code_reader_refines_model (c : Cfg) (hc : c.buf < 4294967296) (chunks : List (Int × Bytes))
    (hb : ∀ ch ∈ chunks, ∀ b ∈ ch.2, b < 256) :
    ∃ r0 r', newReader c = .ok r0 ∧ goFeed r0 chunks = .ok r' ∧
      evFrames r'.trace = (feed c init (chunkToks chunks)).2.map wrapFrame := by
  obtain ⟨r0, h0, hrel, htr⟩ := newReader_rel c
  obtain ⟨r', h1, _, h3⟩ := goFeed_sim c hc chunks r0 init hrel (init_inv c) hb
  exact ⟨r0, r', h0, h1, by simpa [htr, evFrames] using h3⟩

/-- one byte, from any related pair of states (the simulation step the theorem above iterates) -/
theorem code_eachByte_step (c : Cfg) (hc : c.buf < 4294967296) (r : drivers.Reader) (s : St) (h : Rel c r s)
    (b : Nat) (hb : b < 256) : Sim c r.trace (drivers.Reader.eachByte r b) (step c s b) :=
  eb_sim c hc r s h b hb

/-- non-vacuity: the relation holds between the freshly reset translated reader and the model's initial state -/
example (c : Cfg) : ∃ r0, newReader c = .ok r0 ∧ Rel c r0 init := by
  obtain ⟨r0, h, hr, _⟩ := newReader_rel c; exact ⟨r0, h, hr⟩

end Midi.C04
