import Proofs.SmfTrack
/-! File-level round trip. The chunk the writer emits for a closed track of the domain is the AST-level encoding of its
    body, and that is a chain of event strings the reader decodes (`Proofs/SmfReads.lean`); likewise the header. Then the
    domain of the round-trip theorems, and what `WriteTo` emits for a value none of whose tracks makes the writer panic. -/
namespace Midi.Smf
open Midi.Vlq

def ClosedOK (t : Track) : Prop :=
  ∃ (body : ATrack) (δe : Nat), BodyOK body ∧ δe < 4294967296 ∧ t = body.map evOf ++ [⟨δe, EOT⟩]

/-- body of the chunk `WriteTo` emits for the track `t` (nothing where the writer panics) -/
def trackBody (rsOn : Bool) (t : Track) : Bytes := (encTrackBody rsOn 0 t).getD []

def trackChunk (rsOn : Bool) (t : Track) : Bytes := encChunk MTrk (trackBody rsOn t)

theorem encTrackBody_closed (rsOn : Bool) (body : ATrack) (δe : Nat) (hb : BodyOK body) (hδ : δe < 4294967296) :
    ∀ rs, encTrackBody rsOn rs (body.map evOf ++ [⟨δe, EOT⟩]) = some (encBodyL rsOn rs body ++ (encode δe ++ EOT)) := by
  induction body with
  | nil =>
    intro rs
    have hm : δe % 4294967296 = δe := Nat.mod_eq_of_lt hδ
    cases rsOn <;> simp [encTrackBody, encMsg, EOT, isChanStatus, encBodyL, hm]
  | cons x body ih =>
    intro rs
    obtain ⟨δ, e⟩ := x
    obtain ⟨hv, _, hd⟩ := hb (δ, e) (by simp)
    have hm : δ % 4294967296 = δ := Nat.mod_eq_of_lt hd
    have ih' := ih (fun y hy => hb y (by simp [hy])) (encBody rsOn rs e).2
    simp only [List.map_cons, List.cons_append, evOf] at ih' ⊢
    simp only [encTrackBody, encMsg_toBytes rsOn rs e hv, ih', hm, encBodyL, List.append_assoc]

theorem trackBody_closed (rsOn : Bool) (body : ATrack) (δe : Nat) (hb : BodyOK body) (hδ : δe < 4294967296) :
    trackBody rsOn (body.map evOf ++ [⟨δe, EOT⟩]) = encBodyL rsOn 0 body ++ (encode δe ++ EOT) := by
  rw [trackBody, encTrackBody_closed rsOn body δe hb hδ 0]
  rfl

theorem ClosedOK.enc {t : Track} (h : ClosedOK t) (rsOn : Bool) : encTrackBody rsOn 0 t = some (trackBody rsOn t) := by
  obtain ⟨body, δe, hb, hδ, rfl⟩ := h
  rw [trackBody_closed rsOn body δe hb hδ]
  exact encTrackBody_closed rsOn body δe hb hδ 0

/-- the events of a track body as the writer emits them, end-of-track included, are read back one after the other:
    writer and reader status agree before every event -/
theorem readsBody_enc (rsOn : Bool) (δe : Nat) (hδ : δe < 4294967296) (body : ATrack) (hb : BodyOK body) :
    ∀ (rs rr : Nat), (rsOn = true → rr = rs) →
    ReadsBody rr (encBodyL rsOn rs body ++ (encode δe ++ EOT)) (body.map evOf ++ [⟨δe, EOT⟩]) := by
  induction body with
  | nil =>
    intro rs rr _
    -- the length byte of `FF 2F 00` is the encoding of 0; said as an equation, so that no `encode` is evaluated by unification
    have h0 : Reads readVlq [0x00] 0 := fun t => rfl
    have hev : ReadsEv rr (encode δe ++ EOT) δe EOT 0 :=
      readsEv_meta (rr := rr) (l := [0x00]) 0x2F [] (readVlq_encode δe hδ) h0
    exact ReadsBody.eot (u := encode δe ++ EOT) (m := EOT) hev rfl
  | cons x body ih =>
    intro rs rr hrr
    obtain ⟨δ, e⟩ := x
    obtain ⟨hv, hne, hd⟩ := hb (δ, e) (by simp)
    have hnext := ih (fun y hy => hb y (by simp [hy])) (encBody rsOn rs e).2 (statusOr0 e)
      (by intro h; subst h; exact (encBody_status rs e).symm)
    simp only [encBodyL, List.append_assoc, List.map_cons, List.cons_append, evOf]
    rw [← List.append_assoc (encode δ)]
    exact .cons (fun t => readEvent_enc rsOn rs rr δ e t hv hd hrr) (isEOTMsg_toBytes e hne hv) hnext

def ValidTF : TimeFormat → Prop
  | .metric q => 1 ≤ q ∧ q ≤ 32767
  | .smpte fps sub => 1 ≤ fps ∧ fps ≤ 128 ∧ sub < 256

/-- `writeTimeFormat` on a division of the domain: no default, no clamp, no wrap -/
theorem encTimeFormat_metric (q : Nat) (h1 : 1 ≤ q) (h2 : q ≤ 32767) : encTimeFormat (.metric q) = be16 q := by
  have a : ¬ q = 0 := by omega
  have b : ¬ q > 32767 := by omega
  simp [encTimeFormat, a, b]

theorem encTimeFormat_smpte (fps sub : Nat) (h1 : 1 ≤ fps) (h2 : fps ≤ 128) (h3 : sub < 256) :
    encTimeFormat (.smpte fps sub) = [256 - fps, sub] := by
  have e1 : fps % 256 = fps := Nat.mod_eq_of_lt (by omega)
  have e2 : (256 - fps) % 256 = 256 - fps := Nat.mod_eq_of_lt (by omega)
  have e3 : sub % 256 = sub := Nat.mod_eq_of_lt h3
  simp [encTimeFormat, e1, e2, e3]

theorem parseTimeFormat_enc (tf : TimeFormat) (h : ValidTF tf) :
    ∃ a b, encTimeFormat tf = [a, b] ∧ parseTimeFormat a b = tf := by
  cases tf with
  | metric q => exact ⟨_, _, encTimeFormat_metric q h.1 h.2, parseTimeFormat_be16 q h.2⟩
  | smpte fps sub => exact ⟨_, _, encTimeFormat_smpte fps sub h.1 h.2.1 h.2.2, parseTimeFormat_smpte fps sub h.1 h.2.1⟩

theorem readsHeader_enc (fmt n : Nat) (tf : TimeFormat) (hfmt : fmt ≤ 2) (hn : n < 65536) (htf : ValidTF tf) :
    Reads readHeader (encHeader fmt n tf) (fmt, n, tf) := by
  obtain ⟨a, b, hab, hp⟩ := parseTimeFormat_enc tf htf
  have := readHeader_reads fmt n a b hfmt hn
  rw [hp] at this
  simpa [encHeader, encChunk, hab, be16] using this

theorem readFrom_enc (rsOn : Bool) (fmt : Nat) (tf : TimeFormat) (ts : List Track) (tail : Bytes)
    (hfmt : fmt ≤ 2) (htf : ValidTF tf) (hne : ts ≠ []) (hn : ts.length < 65536) (hok : ∀ t ∈ ts, ClosedOK t) :
    readFrom (encHeader fmt ts.length tf ++ ((ts.map (trackChunk rsOn)).flatten ++ tail)) = .ok ⟨fmt, tf, ts⟩ := by
  have := readFrom_chunks (fun t => MTrk ++ be32 ((trackBody rsOn t).length % 4294967296)) (trackBody rsOn) id
    (encHeader fmt ts.length tf) tail fmt tf ts (readsHeader_enc fmt ts.length tf hfmt hn htf) hne fun t ht => by
      obtain ⟨body, δe, hb, hδ, rfl⟩ := hok t ht
      refine ⟨ReadsHead.mtrk _ rfl, ?_⟩
      rw [trackBody_closed rsOn body δe hb hδ]
      exact readsBody_enc rsOn δe hδ body hb 0 0 (fun _ => rfl)
  rwa [List.map_id] at this

/-- a track as the API can build it from well-formed messages: a valid body, possibly closed -/
def TrackOK (t : Track) : Prop :=
  ∃ body : ATrack, BodyOK body ∧
    (t = body.map evOf ∨ ∃ δe, δe < 4294967296 ∧ t = body.map evOf ++ [⟨δe, EOT⟩])

structure Dom (s : File) : Prop where
  fmt : s.format ≤ 2
  tf : ValidTF s.tf
  nonempty : s.tracks ≠ []
  count : s.tracks.length < 65536
  tracks : ∀ t ∈ s.tracks, TrackOK t

theorem TrackOK.closed {t : Track} (h : TrackOK t) : ClosedOK (t.close 0) := by
  obtain ⟨body, hb, rfl | ⟨δe, hδ, rfl⟩⟩ := h
  · exact ⟨body, 0, hb, by omega, close_open _ _ (body_open body hb)⟩
  · exact ⟨body, δe, hb, hδ, close_closed _ δe 0⟩

theorem prepared_format_le (s : File) (h : s.format ≤ 2) : s.prepared.format ≤ 2 := by
  simp only [File.prepared]
  split <;> omega

theorem prepared_length (s : File) : s.prepared.tracks.length = s.tracks.length := List.length_map _

/-- a format 0 that `WriteTo` did not promote has one track -/
theorem prepared_format_zero {s : File} (hne : s.tracks ≠ []) (hc : s.tracks.length < 65536)
    (h0 : s.prepared.format = 0) : s.prepared.tracks.length = 1 := by
  have hpos := List.length_pos_iff.mpr hne
  simp only [File.prepared, Nat.mod_eq_of_lt hc] at h0
  rw [prepared_length]
  split at h0 <;> omega

theorem prepared_ne_nil {s : File} (h : s.tracks ≠ []) : s.prepared.tracks ≠ [] := by
  simpa [File.prepared] using h

theorem forall_prepared {s : File} {P : Track → Prop} (h : ∀ t ∈ s.tracks, P (t.close 0)) :
    ∀ t ∈ s.prepared.tracks, P t := by
  simpa [File.prepared] using h

theorem writeCalls_go (rsOn : Bool) (ts : List Track)
    (h : ∀ t ∈ ts, encTrackBody rsOn 0 t = some (trackBody rsOn t)) :
    writeCalls.go rsOn ts = some (ts.map (trackChunk rsOn)) := by
  induction ts with
  | nil => rfl
  | cons t ts ih =>
    simp [writeCalls.go, h t (by simp), ih (fun t ht => h t (by simp [ht])), trackChunk]

theorem writeTo_chunks (rsOn : Bool) (s : File) (hcount : s.tracks.length < 65536) (hne : s.tracks ≠ [])
    (h : ∀ t ∈ s.prepared.tracks, encTrackBody rsOn 0 t = some (trackBody rsOn t)) :
    writeTo rsOn s = .ok (encHeader s.prepared.format s.prepared.tracks.length s.tf ++
      (s.prepared.tracks.map (trackChunk rsOn)).flatten) := by
  have hlen : s.tracks.length % 65536 = s.tracks.length := Nat.mod_eq_of_lt hcount
  have htf : s.prepared.tf = s.tf := rfl
  simp [writeTo, hlen, hne, writeCalls, writeCalls_go rsOn _ h, htf, prepared_length]

end Midi.Smf
