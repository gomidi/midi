import MidiModel.Msg
import MidiModel.Generated.UtilsGo
import MidiModel.Generated.MidiGo
import Proofs.GoSem
/-!
# C07, tie to the source: the `internal/utils` bit helpers and every channel-voice / system-common constructor
(`v2/channel.go`, `v2/helpers.go`, `v2/syscommon.go`) as translated from the working tree are the model's functions
(`MidiModel/Msg.lean`), for every argument. C07's theorems about the model's constructors (`Props/C07.lean`) thereby
speak about the translated source text.
-/
namespace Midi.C07
open Midi Midi.Msg Midi.Go

theorem code_ParseStatus (b : Nat) : utils.ParseStatus b = parseStatus b := rfl
theorem code_ParseUint7 (b : Nat) : utils.ParseUint7 b = parseUint7 b := rfl
theorem code_ParseTwoUint7 (a b : Nat) : utils.ParseTwoUint7 a b = (parseUint7 a, parseUint7 b) := rfl
theorem code_ClearBitU8 (n pos : Nat) : utils.ClearBitU8 n pos = clearBitU8 n pos := rfl
theorem code_clearBitU16 (n pos : Nat) : utils.clearBitU16 n pos = clearBitU16 n pos := rfl

theorem code_ParsePitchWheelVals (b1 b2 : Nat) : utils.ParsePitchWheelVals b1 b2 = parsePitchWheelVals b1 b2 := by
  unfold utils.ParsePitchWheelVals parsePitchWheelVals
  simp only [Id.run, pure]
  generalize (b2 &&& 127) <<< 7 % 65536 ||| b1 &&& 127 = v
  refine Prod.ext ?_ rfl
  show Go.wrapS 16 (Go.wrapS 16 (v : Int) - 8192) = _
  unfold Go.wrapS
  simp only []
  split <;> omega

/-- `MsbLsbUnsigned`: the translated function panics exactly where the model says `none` -/
theorem code_MsbLsbUnsigned (n : Nat) :
    utils.MsbLsbUnsigned n = (match msbLsbUnsigned n with | some v => .ok v | none => .error "panic") := by
  unfold utils.MsbLsbUnsigned msbLsbUnsigned
  by_cases h : n > 16383
  · rw [if_pos h, if_pos h]
    rfl
  · rw [if_neg h, if_neg h]
    rfl

theorem code_MsbLsbSigned (n : Int) :
    utils.MsbLsbSigned n = (match msbLsbSigned n with | some v => .ok v | none => .error "panic") := by
  unfold utils.MsbLsbSigned msbLsbSigned
  rw [code_MsbLsbUnsigned]
  rfl

theorem code_getCompleteStatus (st ch : Nat) (tb : Bool) (d : List Nat) :
    midi.channelMessage.getCompleteStatus { status := st, channel := ch, twoBytes := tb, data := d } =
      getCompleteStatus st ch := rfl

/-- the two writes into a fresh two-cell array (`data` of a `channelMessage`, `b` in `SPP`) -/
theorem set_cell0 (x : Nat) : Go.setIdx (List.replicate 2 0) 0 x = pure [x, 0] := rfl
theorem set_cell1 (x y : Nat) : Go.setIdx [x, 0] 1 y = pure [x, y] := rfl

/-- not by `rfl` alone, which would make it a definitional rule of `simp` (`Proofs/GoSem.lean`, `ok_bind`) -/
theorem code_channelMessage2 (c st a b : Nat) : midi.channelMessage2 c st a b = .ok (channelMessage2 c st a b) := by
  unfold midi.channelMessage2 midi.channelMessage.bytes
  simp only [go_eval, ↓reduceIte, ↓Go.bind_eq_of_pure (set_cell0 a), ↓Go.bind_eq_of_pure (set_cell1 a b)]
  rfl

theorem code_channelMessage1 (c st a : Nat) : midi.channelMessage1 c st a = .ok (channelMessage1 c st a) := by
  unfold midi.channelMessage1 midi.channelMessage.bytes
  simp only [go_eval, ↓reduceIte, ↓Go.bind_eq_of_pure (set_cell0 a)]
  rfl

theorem code_NoteOn (c k v : Nat) : midi.NoteOn c k v = .ok (noteOn c k v) := by
  unfold midi.NoteOn noteOn clampHi
  by_cases h1 : c > 15 <;> by_cases h2 : k > 127 <;> by_cases h3 : v > 127 <;>
    simp only [h1, h2, h3, ↓reduceIte, code_channelMessage2] <;> rfl

theorem code_NoteOffVelocity (c k v : Nat) : midi.NoteOffVelocity c k v = .ok (noteOffVelocity c k v) := by
  unfold midi.NoteOffVelocity noteOffVelocity clampHi
  by_cases h1 : c > 15 <;> by_cases h2 : k > 127 <;> by_cases h3 : v > 127 <;>
    simp only [h1, h2, h3, ↓reduceIte, code_channelMessage2] <;> rfl

theorem code_NoteOff (c k : Nat) : midi.NoteOff c k = .ok (noteOff c k) := by
  unfold midi.NoteOff noteOff clampHi
  by_cases h1 : c > 15 <;> by_cases h2 : k > 127 <;>
    simp only [h1, h2, ↓reduceIte, code_channelMessage2] <;> rfl

theorem code_PolyAfterTouch (c k v : Nat) : midi.PolyAfterTouch c k v = .ok (polyAfterTouch c k v) := by
  unfold midi.PolyAfterTouch polyAfterTouch clampHi
  by_cases h1 : c > 15 <;> by_cases h2 : k > 127 <;> by_cases h3 : v > 127 <;>
    simp only [h1, h2, h3, ↓reduceIte, code_channelMessage2] <;> rfl

theorem code_ControlChange (c k v : Nat) : midi.ControlChange c k v = .ok (controlChange c k v) := by
  unfold midi.ControlChange controlChange clampHi
  by_cases h1 : c > 15 <;> by_cases h2 : k > 127 <;> by_cases h3 : v > 127 <;>
    simp only [h1, h2, h3, ↓reduceIte, code_channelMessage2] <;> rfl

theorem code_ProgramChange (c p : Nat) : midi.ProgramChange c p = .ok (programChange c p) := by
  unfold midi.ProgramChange programChange clampHi
  by_cases h1 : c > 15 <;> by_cases h2 : p > 127 <;>
    simp only [h1, h2, ↓reduceIte, code_channelMessage1] <;> rfl

theorem code_AfterTouch (c p : Nat) : midi.AfterTouch c p = .ok (afterTouch c p) := by
  unfold midi.AfterTouch afterTouch clampHi
  by_cases h1 : c > 15 <;> by_cases h2 : p > 127 <;>
    simp only [h1, h2, ↓reduceIte, code_channelMessage1] <;> rfl

theorem pitch_tail (ch : Nat) (w : Int) :
    (do
      let res1 ← utils.MsbLsbSigned w
      let b ← Go.putU16BE (List.replicate 2 0) res1
      let x ← Go.idx b 0
      let y ← Go.idx b 1
      midi.channelMessage2 ch 14 x y : Except String (List Nat)) =
    (match msbLsbSigned w with
      | some r => .ok (channelMessage2 ch 14 (r >>> 8 % 256) (r % 256))
      | none => .error "panic") := by
  rw [code_MsbLsbSigned]
  cases msbLsbSigned w with
  | none => rfl
  | some r =>
    have hp : Go.putU16BE (List.replicate 2 0) r = pure [r / 256 % 256, r % 256] := rfl
    simp only [↓Go.ok_bind, ↓Go.bind_eq_of_pure hp, go_eval, code_channelMessage2, Nat.shiftRight_eq_div_pow]

/-- `Pitchbend`: the translated function panics exactly where the model says `none` (it never does: `Props/C07.lean`) -/
theorem code_Pitchbend (c : Nat) (v : Int) :
    midi.Pitchbend c v = (match pitchbend c v with | some m => .ok m | none => .error "panic") := by
  unfold midi.Pitchbend pitchbend clampPitch clampHi
  by_cases h1 : c > 15 <;> by_cases h2 : v > 8191 <;> by_cases h3 : v < -8192 <;>
    simp only [h1, h2, h3, ↓reduceIte, Int.reduceLT, Int.reduceNeg, pitch_tail] <;>
    cases msbLsbSigned _ <;> rfl

theorem code_Tune : midi.Tune = tune := rfl
theorem code_SongSelect (s : Nat) : midi.SongSelect s = songSelect s := rfl
theorem code_MTC (m : Nat) (h : m < 256) : midi.MTC m = mtc m := by
  unfold midi.MTC mtc; simp only [Nat.mod_eq_of_lt h]; rfl
theorem code_SPP (p : Nat) : midi.SPP p = .ok (spp p) := by
  unfold midi.SPP
  simp only [go_eval, ↓Go.bind_eq_of_pure (set_cell0 _), ↓Go.bind_eq_of_pure (set_cell1 _ _)]
  rfl

end Midi.C07
