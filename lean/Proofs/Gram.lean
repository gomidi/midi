import MidiModel.SmfGrammar
import Proofs.SmfReads
/-! The reader model decodes every valid grammar tree to its meaning (C02). -/
namespace Midi.Gram
open Midi.Vlq Midi.Smf

theorem readVlq_g (v : GVlq) (hv : v.Valid) : Reads readVlq v.bytes v.value :=
  readVlq_padded v.pad v.value (by have := hv.1; omega)

theorem readEvent_g (rr : Nat) (e : GEvent) (rest : Bytes) (hd : e.delta.Valid) (hv : e.ev.Valid)
    (hel : match e.ev with | .chan s _ _ true => rr = s | _ => True) :
    readEvent rr (e.bytes ++ rest) = .ok ⟨e.delta.value, e.ev.msg, e.ev.statusAfter, rest⟩ := by
  obtain ⟨δ, ev⟩ := e
  have hu := readVlq_g δ hd
  cases ev with
  | metaEv t len data =>
    obtain ⟨_, _, hl, hlen⟩ := hv
    exact readsEv_meta t data hu (hlen ▸ readVlq_g len hl) rest
  | sysex l len data =>
    obtain ⟨hl0, hl, hlen⟩ := hv
    exact readsEv_sysex data hl0 hu (hlen ▸ readVlq_g len hl) rest
  | chan s d1 d2 elide =>
    obtain ⟨h1, h2, h3, h4⟩ := hv
    have hel' : elide = true → rr = s := by
      intro h
      subst h
      exact hel
    have := readsEv_chan d2 elide hu h1 h2 h3 h4 hel' rest
    cases d2 <;> simpa [GEvent.bytes, GEv.bytes, GEv.msg, GEv.statusAfter] using this

def eotBytes (δ : GVlq) (pad : Nat) : Bytes := δ.bytes ++ ([0xFF, 0x2F] ++ (List.replicate pad 0x80 ++ [0x00]))

theorem readEvent_eot (rr : Nat) (δ : GVlq) (pad : Nat) (hd : δ.Valid) (rest : Bytes) :
    readEvent rr (eotBytes δ pad ++ rest) = .ok ⟨δ.value, EOT, 0, rest⟩ := by
  -- the padded length byte of `FF 2F 00` is a padded encoding of 0
  have hz : Reads readVlq (List.replicate pad 0x80 ++ [0x00]) 0 := readVlq_padded pad 0 (by omega)
  have := readsEv_meta (rr := rr) 0x2F [] (readVlq_g δ hd) hz rest
  rw [List.append_nil] at this
  exact this

theorem msg_not_eot (ev : GEv) (hv : ev.Valid) : isEOTMsg ev.msg = false := by
  cases ev with
  | chan s d1 d2 el => cases d2 <;> exact isEOTMsg_cons _ _ (by have := hv.2.1; omega)
  | metaEv t len data => exact isEOTMsg_meta t _ hv.2.1
  | sysex l len data => exact isEOTMsg_cons _ _ (by rcases hv.1 with hl | hl <;> omega)

def evMeaning (e : GEvent) : Event := ⟨e.delta.value, e.ev.msg⟩

theorem gtrack_reads (δe : GVlq) (pad : Nat) (hδ : δe.Valid) : ∀ (evs : List GEvent) (rr : Nat),
    (∀ e ∈ evs, e.delta.Valid ∧ e.ev.Valid) → elideOK rr evs →
    ReadsBody rr ((evs.map GEvent.bytes).flatten ++ eotBytes δe pad) (evs.map evMeaning ++ [⟨δe.value, EOT⟩]) := by
  intro evs
  induction evs with
  | nil => intro rr _ _; exact .eot (fun t => readEvent_eot rr δe pad hδ t) rfl
  | cons e evs ih =>
    intro rr hv hel
    obtain ⟨hd, hvv⟩ := hv e (by simp)
    simp only [List.map_cons, List.flatten_cons, List.append_assoc, List.cons_append]
    exact .cons (fun t => readEvent_g rr e t hd hvv hel.1) (msg_not_eot e.ev hvv)
      (ih _ (fun x hx => hv x (by simp [hx])) hel.2)

-- fuel counted in chunks, as `C02.aliens_skipped` states it; `group_head` below counts it in bytes, the form
-- `readFrom_chunks` takes
theorem chunkLoop_aliens (as : List Alien) (hv : ∀ a ∈ as, a.Valid) (k L : Nat) (rest : Bytes) :
    ∀ fuel, as.length < fuel →
    chunkLoop fuel k ((as.map Alien.bytes).flatten ++ (MTrk ++ be32 L ++ rest)) = .ok (k + 1, rest) := by
  induction as with
  | nil =>
    intro fuel hf
    obtain ⟨f, rfl⟩ : ∃ f, fuel = f + 1 := ⟨fuel - 1, by omega⟩
    simp only [List.map_nil, List.flatten_nil, List.nil_append, List.append_assoc]
    rw [chunkLoop_chunk f k MTrk (be32 L) rest rfl rfl, if_pos rfl]
  | cons a as ih =>
    intro fuel hf
    obtain ⟨h4, hne, hlen⟩ := hv a (by simp)
    obtain ⟨f, rfl⟩ : ∃ f, fuel = f + 1 := ⟨fuel - 1, by omega⟩
    simp only [List.map_cons, List.flatten_cons, Alien.bytes, chunk, List.append_assoc]
    rw [chunkLoop_chunk f k a.typ _ _ h4 rfl, if_neg hne, lenOf4_be32 _ hlen, if_neg (by simp),
      List.drop_left]
    simpa only [List.append_assoc] using ih (fun x hx => hv x (by simp [hx])) f (by simp at hf; omega)

theorem group_head (as : List Alien) (hv : ∀ a ∈ as, a.Valid) (L : Nat) :
    ReadsHead ((as.map Alien.bytes).flatten ++ (MTrk ++ be32 L)) := by
  induction as with
  | nil => exact .mtrk _ rfl
  | cons a as ih =>
    obtain ⟨h4, hne, hlen⟩ := hv a (List.mem_cons_self ..)
    simp only [List.map_cons, List.flatten_cons, Alien.bytes, chunk, List.append_assoc]
    exact .alien h4 hne rfl (lenOf4_be32 _ hlen).symm (ih fun x hx => hv x (List.mem_cons_of_mem _ hx))

theorem parseTimeFormat_divisionBytes (tf : TimeFormat) (h : ValidDiv tf) :
    ∃ a b, divisionBytes tf = [a, b] ∧ parseTimeFormat a b = tf := by
  cases tf with
  | metric q => exact ⟨_, _, rfl, parseTimeFormat_be16 q h.2⟩
  | smpte fps sub =>
    obtain ⟨h1, _⟩ := h
    exact ⟨_, _, rfl, parseTimeFormat_smpte fps sub (by omega) (by omega)⟩

theorem header_reads (format n : Nat) (tf : TimeFormat) (hf : format ≤ 2) (hn : n < 65536) (hd : ValidDiv tf) :
    Reads readHeader (MThd ++ be32 6 ++ be16 format ++ be16 n ++ divisionBytes tf) (format, n, tf) := by
  obtain ⟨a, b, hab, hp⟩ := parseTimeFormat_divisionBytes tf hd
  subst hp
  rw [hab]
  exact readHeader_reads format n a b hf hn

theorem readFrom_serialize (g : GFile) (h : g.Valid) : readFrom (serialize g) = .ok (meaning g) := by
  have hb : groupBytes = fun x => ((x.1.map Alien.bytes).flatten ++ (MTrk ++ be32 x.2.body.length)) ++
      ((x.2.events.map GEvent.bytes).flatten ++ eotBytes x.2.eotDelta x.2.eotLenPad) :=
    funext fun x => by simp [groupBytes, chunk, GTrack.body, eotBytes, List.append_assoc]
  rw [serialize, hb]
  exact readFrom_chunks _ _ (fun x => x.2.meaning) _ _ g.format g.tf g.groups
    (header_reads g.format g.groups.length g.tf h.fmt h.count h.div) h.nonempty fun x hx =>
      have ⟨hal, hev, hel, hδ, _, _⟩ := h.groups x hx
      ⟨group_head x.1 hal _, gtrack_reads _ _ hδ _ 0 hev hel⟩

end Midi.Gram
