import Proofs.Convert
import MidiModel.Generated.Facts
/-!
# C16 — converting a format-0 file to format 1 preserves every event and its time

Model: `MidiModel/Convert.lean` (`convert` = `SMF.ConvertToSMF1`, built on `Track.add`/`Track.close`/
`File.addTrack` of `MidiModel/Smf.lean`). The statements use the vocabulary of `Proofs/ConvertSpec.lean`, which is
not the model: how a consumer reads a track (`timed`, `payload`), MIDI 1.0's channel messages (`IsChanMsg`,
`IsNonChan`), `channelsOf`, `ClosedOnce`.

Domain `Dom f t` (DESIGN §8): `f` has the single track `t`, is not format 1 already, an end-of-track event occurs
in `t` at most as the last event (where `Track.Close` puts it), and on every resulting track (the non-channel events;
each channel) every step from one event to the next — the first from tick 0 — is below `2^32` ticks (`GapsP`: the
recomputed deltas are `uint32`, more cannot be expressed). The total length is bounded by `int64` only; a source
shorter than `2^32` ticks is in the domain whatever its events (`Dom.ofTotal`). Messages are arbitrary byte strings.

Trusted (DESIGN §4): `sort.Sort` leaves the already non-decreasing `metaTrack` as it is.
-/
namespace Midi.C16
open Midi Midi.Smf Midi.Convert

/-- the selectors used below are the MIDI notions, not artefacts of the model -/
theorem onChan_iff (c : Nat) (p : Nat × Msg) : onChan c p = true ↔ IsChanMsg p.2 c := by
  simp [onChan, getChannel_some_iff]

theorem offChan_iff (p : Nat × Msg) : offChan p = true ↔ IsNonChan p.2 := by
  simp [offChan, ← getChannel_none_iff]

/-- `channelsOf t`: exactly the channels that occur, each once, ascending -/
theorem channelsOf_spec (t : Track) :
    (channelsOf t).Pairwise (· < ·) ∧ ∀ c, c ∈ channelsOf t ↔ ∃ e ∈ t, IsChanMsg e.msg c :=
  ⟨List.Pairwise.filter _ List.pairwise_lt_range, mem_channelsOf t⟩

/-- The result is a format-1 file with the time division of the source. -/
theorem convert_division (f : File) (t : Track) (h : Dom f t) :
    ∃ g, convert f = .ok g ∧ g.tf = f.tf ∧ g.format = 1 :=
  ⟨_, convert_shape f t h, rfl, rfl⟩

/-- Every message keeps its absolute tick, and within each result track the messages are exactly
    those of the source that belong there, in the order of the source: the payload of the first track
    is the payload of the source restricted to non-channel messages, the payload of the `i`-th
    following track is the payload of the source restricted to the `i`-th occurring channel. -/
theorem convert_abs (f : File) (t : Track) (h : Dom f t) :
    ∃ mt cts, convert f = .ok ⟨1, f.tf, mt :: cts⟩ ∧
      payload mt = (payload t).filter offChan ∧
      cts.length = (channelsOf t).length ∧
      ∀ cp ∈ (channelsOf t).zip cts, payload cp.2 = (payload t).filter (onChan cp.1) := by
  refine ⟨_, _, convert_shape f t h, payload_bucket t offChan h.gapsMeta h.eot, by simp, ?_⟩
  intro cp hcp
  rw [List.snd_of_mem_zip_map hcp]
  exact payload_bucket t (onChan cp.1) (h.gapsChan cp.1) h.eot

/-- Channel messages sit on a track of their own channel — one track per channel that occurs, in
    channel order, none of them empty — and everything else on the first track. -/
theorem convert_routing (f : File) (t : Track) (h : Dom f t) :
    ∃ mt cts, convert f = .ok ⟨1, f.tf, mt :: cts⟩ ∧
      (∀ p ∈ payload mt, IsNonChan p.2) ∧
      cts.length = (channelsOf t).length ∧
      ∀ cp ∈ (channelsOf t).zip cts, payload cp.2 ≠ [] ∧ ∀ p ∈ payload cp.2, IsChanMsg p.2 cp.1 := by
  obtain ⟨mt, cts, hc, hm, hl, hz⟩ := convert_abs f t h
  refine ⟨mt, cts, hc, fun p hp => ?_, hl, fun cp hcp => ?_⟩
  · rw [hm] at hp
    exact (offChan_iff p).1 (List.mem_filter.1 hp).2
  · rw [hz cp hcp]
    exact ⟨payload_onChan_ne_nil t cp.1 (List.of_mem_zip hcp).1, fun p hp => (onChan_iff _ _).1 (List.mem_filter.1 hp).2⟩

/-- Within each result track the relative order of the messages (with their absolute ticks) is the
    order they have in the source. -/
theorem convert_order (f : File) (t : Track) (h : Dom f t) :
    ∃ g, convert f = .ok g ∧ ∀ tr ∈ g.tracks, (payload tr).Sublist (payload t) := by
  obtain ⟨g, hg, htracks⟩ := convert_tracks f t h
  refine ⟨g, hg, fun tr htr => ?_⟩
  obtain ⟨sel, rfl, hgaps⟩ := htracks tr htr
  rw [payload_bucket t sel hgaps h.eot]
  exact List.filter_sublist

/-- The multiset of (absolute tick, message) pairs of the result tracks is that of the source:
    nothing is lost, duplicated or altered. -/
theorem convert_perm (f : File) (t : Track) (h : Dom f t) :
    ∃ g, convert f = .ok g ∧ (g.tracks.flatMap payload).Perm (payload t) := by
  refine ⟨_, convert_shape f t h, ?_⟩
  simp only [List.flatMap_cons, List.flatMap_map]
  simp only [payload_bucket t _ h.gapsMeta h.eot, payload_bucket t _ (h.gapsChan _) h.eot]
  exact (payload_partition t).symm

/-- Every result track is properly terminated: it ends with an end-of-track event and contains no
    other one. -/
theorem convert_closed (f : File) (t : Track) (h : Dom f t) :
    ∃ g, convert f = .ok g ∧ ∀ tr ∈ g.tracks, ClosedOnce tr := by
  obtain ⟨g, hg, htracks⟩ := convert_tracks f t h
  refine ⟨g, hg, fun tr htr => ?_⟩
  obtain ⟨sel, rfl, _⟩ := htracks tr htr
  exact closedOnce_mkTrack _ (noEarly_bucket t sel h.eot)

/-- The end-of-track event of a closed source is not replaced: it travels through `Track.Add` to the
    first result track and stays at its absolute tick (the length of the track is preserved). -/
theorem convert_eot_time (f : File) (t : Track) (h : Dom f t) (hc : t.isClosed = true) :
    ∃ mt cts, convert f = .ok ⟨1, f.tf, mt :: cts⟩ ∧ (timed mt).getLast? = some (totalTicks t, EOT) :=
  ⟨_, _, convert_shape f t h, timed_meta_closed t h.gapsMeta h.eot hc⟩

/-- A file that is format 1 already is returned unchanged. -/
theorem convert_smf1 (f : File) (h : f.format = 1) : convert f = .ok f := by
  simp [convert, h]

/-- `GetChannel` of the model against the compiled library: the table over all 256 first bytes,
    dumped by the harness on every run (`Generated/Facts.lean`), and independence from the rest of
    the message. -/
theorem getChannel_table :
    (List.range 256).map (fun b => (getChannel [b]).getD 16) = Facts.c16ChanOfStatus ∧
    ∀ b rest, getChannel (b :: rest) = getChannel [b] := by
  refine ⟨by decide +kernel, fun _ _ => rfl⟩

/-! Non-vacuity: a closed source with channel messages on channels 0 and 9 (several per tick), a meta
    message after channel messages, a sysex message and a large gap meets the hypotheses; the
    executable model produces the three expected tracks. -/
def sampleTrack : Track :=
  [⟨0, [0xFF, 0x51, 0x03, 0x07, 0xA1, 0x20]⟩, ⟨0, [0x90, 60, 100]⟩, ⟨0, [0x99, 36, 127]⟩,
   ⟨480, [0x80, 60, 0]⟩, ⟨0, [0xFF, 0x01, 0x01, 0x41]⟩, ⟨0, [0x99, 38, 127]⟩,
   ⟨4294960000, [0xF0, 0x7E, 0xF7]⟩, ⟨10, [0xC0, 5]⟩, ⟨100, EOT⟩]

def sampleFile : File := ⟨0, .metric 480, [sampleTrack]⟩

example : Dom sampleFile sampleTrack := Dom.ofTotal rfl (by decide) (by decide) (by unfold EOTOnlyLast; decide)

/-- a long piece: 2^32 ticks and more in total (24 steps of 2^28 − 1 ticks), yet inside the domain because no
    resulting track is silent for 2^32 ticks -/
def longTrack : Track :=
  (List.range 24).map (fun i => ⟨268435455, if i % 3 = 0 then [0x90, 60, 100] else if i % 3 = 1 then [0xFF, 0x01, 0x01, 0x41] else [0x93, 62, 90]⟩)
    ++ [⟨5, EOT⟩]

example : 4294967296 ≤ totalTicks longTrack := by decide +kernel

example : Dom ⟨0, .metric 960, [longTrack]⟩ longTrack :=
  ⟨rfl, by decide, by decide +kernel, by decide +kernel,
   gapsChan_of_first16 longTrack (by decide +kernel), by unfold EOTOnlyLast; decide +kernel⟩

example : convert sampleFile = .ok ⟨1, .metric 480,
    [[⟨0, [0xFF, 0x51, 0x03, 0x07, 0xA1, 0x20]⟩, ⟨480, [0xFF, 0x01, 0x01, 0x41]⟩,
      ⟨4294960000, [0xF0, 0x7E, 0xF7]⟩, ⟨110, EOT⟩],
     [⟨0, [0x90, 60, 100]⟩, ⟨480, [0x80, 60, 0]⟩, ⟨4294960010, [0xC0, 5]⟩, ⟨0, EOT⟩],
     [⟨0, [0x99, 36, 127]⟩, ⟨480, [0x99, 38, 127]⟩, ⟨0, EOT⟩]]⟩ := by decide +kernel

example : channelsOf sampleTrack = [0, 9] := by decide +kernel
example : sampleTrack.isClosed = true := by decide

/-- outside the domain the model shows what the hypotheses exclude: the `uint32` wrap … -/
example : convert ⟨0, .metric 96, [[⟨4294967295, [0x90, 1, 1]⟩, ⟨1, [0xFF, 0x01, 0x00]⟩]]⟩ =
    .ok ⟨1, .metric 96, [[⟨0, [0xFF, 0x01, 0x00]⟩, ⟨0, EOT⟩], [⟨4294967295, [0x90, 1, 1]⟩, ⟨0, EOT⟩]]⟩ := by
  decide +kernel

/-- … an early end-of-track swallowing the non-channel events behind it, and the panic without a track -/
example : convert ⟨0, .metric 96, [[⟨0, EOT⟩, ⟨5, [0xFF, 0x01, 0x00]⟩, ⟨5, [0x90, 1, 1]⟩]]⟩ =
    .ok ⟨1, .metric 96, [[⟨0, EOT⟩], [⟨10, [0x90, 1, 1]⟩, ⟨0, EOT⟩]]⟩ := by decide +kernel

example : convert ⟨0, .metric 96, []⟩ = .panic := by decide

end Midi.C16
