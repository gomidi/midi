import MidiModel.Record
import Proofs.Msg
import Proofs.Meta
import Proofs.SmfTrack
/-!
# The recording callback over an arbitrary list of listener messages

`record` is characterised by a structural recursion (`recEvents`); from it: the recorded messages are the
channel messages in arrival order, the deltas are the conversion of the stamp differences between
*recorded* messages. The two conversions involved: the `int32` difference does not wrap on stamps in `[0, 2^31)`,
and the reference `ticksRef` is a nearest integer.
-/
namespace Midi.Record
open Midi.Smf

def chanMsgs (ms : List (Bytes × Int)) : List (Bytes × Int) := ms.filter (fun m => isChannelMsg m.1)

/-- events the callback appends for `ms` when the previously recorded stamp is `last` -/
def recEvents (ticksOf : Int → Nat) : Int → List (Bytes × Int) → List Event
  | _, [] => []
  | last, m :: r =>
    if isChannelMsg m.1 then ⟨ticksOf (wrap32 (m.2 - last)), m.1⟩ :: recEvents ticksOf m.2 r
    else recEvents ticksOf last r

theorem isChannelMsg_iff (m : Bytes) :
    isChannelMsg m = true ↔ ∃ b r, m = b :: r ∧ 0x80 ≤ b ∧ b ≤ 0xEF := by
  cases m with
  | nil => exact ⟨fun h => absurd h (by decide), fun ⟨_, _, h, _⟩ => nomatch h⟩
  | cons b r =>
    have h : isChannelMsg (b :: r) = decide (0x80 ≤ b ∧ b ≤ 0xEF) := (Msg.typeIs_class b).1
    rw [h, decide_eq_true_iff]
    exact ⟨fun h => ⟨b, r, rfl, h⟩, fun ⟨_, _, e, h⟩ => by cases e; exact h⟩

/-- link to the `Option`-valued model of `Message.Is` that C08 ties to the code: the call never panics
    and answers `isChannelMsg` -/
theorem isChannelMsg_msgIs (m : Bytes) : Msg.msgIs .midi m Msg.ChannelMsg = some (isChannelMsg m) := by
  cases m with
  | nil => rfl
  | cons b r => simp [Msg.msgIs, Msg.typeOf, isChannelMsg]

theorem chan_ne_EOT (m : Bytes) (h : isChannelMsg m = true) : (m == EOT) = false := by
  obtain ⟨b, r, rfl, h1, h2⟩ := (isChannelMsg_iff m).1 h
  have : b ≠ 0xFF := by omega
  simp [EOT, this]

theorem foldl_onMsg (ticksOf : Int → Nat) (ms : List (Bytes × Int)) :
    ∀ (t : Track) (last : Int), t.isClosed = false →
      (ms.foldl (onMsg ticksOf) ⟨t, last⟩).track = t ++ recEvents ticksOf last ms ∧
      Track.isClosed (t ++ recEvents ticksOf last ms) = false := by
  induction ms with
  | nil => intro t last h; simp [recEvents, h]
  | cons m r ih =>
    intro t last h
    by_cases hc : isChannelMsg m.1 = true
    · have hopen : Track.isClosed (t ++ [⟨ticksOf (wrap32 (m.2 - last)), m.1⟩]) = false := by
        rw [isClosed_snoc]; exact chan_ne_EOT m.1 hc
      have := ih (t ++ [⟨ticksOf (wrap32 (m.2 - last)), m.1⟩]) m.2 hopen
      simp only [List.foldl_cons, onMsg, hc, Bool.not_true, Bool.false_eq_true, if_false, recEvents, if_true,
        add_open t _ m.1 h]
      simpa [List.append_assoc] using this
    · have hc' : isChannelMsg m.1 = false := by simpa using hc
      have := ih t last h
      simp only [List.foldl_cons, onMsg, hc', Bool.not_false, if_true, recEvents, Bool.false_eq_true, if_false]
      exact this

theorem record_eq (ticksOf : Int → Nat) (tempoMsg : Bytes) (ms : List (Bytes × Int)) (ht : tempoMsg ≠ EOT) :
    record ticksOf tempoMsg ms = ⟨0, tempoMsg⟩ :: recEvents ticksOf 0 ms ∧
    Track.isClosed (record ticksOf tempoMsg ms) = false := by
  have h0 : Track.add [] 0 [tempoMsg] = [⟨0, tempoMsg⟩] := by simp [Track.add, Track.isClosed, addEvents]
  have hopen : Track.isClosed [⟨0, tempoMsg⟩] = false := by
    simp [Track.isClosed, ht]
  have := foldl_onMsg ticksOf ms [⟨0, tempoMsg⟩] 0 hopen
  simp only [record, start, h0]
  constructor
  · simpa using this.1
  · rw [this.1]; exact this.2

theorem recEvents_msgs (ticksOf : Int → Nat) (ms : List (Bytes × Int)) :
    ∀ last, (recEvents ticksOf last ms).map (·.msg) = (chanMsgs ms).map (·.1) := by
  induction ms with
  | nil => intro _; rfl
  | cons m r ih =>
    intro last
    by_cases hc : isChannelMsg m.1 = true
    · simp [recEvents, chanMsgs, hc]; simpa [chanMsgs] using ih m.2
    · have hc' : isChannelMsg m.1 = false := by simpa using hc
      simp [recEvents, chanMsgs, hc']; simpa [chanMsgs] using ih last

theorem recEvents_mem (ticksOf : Int → Nat) (ms : List (Bytes × Int)) (last : Int) (e : Event)
    (he : e ∈ recEvents ticksOf last ms) : ∃ m ∈ ms, isChannelMsg m.1 = true ∧ e.msg = m.1 := by
  have : e.msg ∈ (recEvents ticksOf last ms).map (·.msg) := List.mem_map_of_mem he
  rw [recEvents_msgs] at this
  obtain ⟨m, hm, e1⟩ := List.mem_map.1 this
  have hm' := List.mem_filter.1 hm
  exact ⟨m, hm'.1, hm'.2, e1.symm⟩

theorem recEvents_deltas (ticksOf : Int → Nat) (ms : List (Bytes × Int)) :
    ∀ last, (recEvents ticksOf last ms).map (·.delta) =
      List.zipWith (fun t p => ticksOf (wrap32 (t - p))) ((chanMsgs ms).map (·.2)) (last :: (chanMsgs ms).map (·.2)) := by
  induction ms with
  | nil => intro _; rfl
  | cons m r ih =>
    intro last
    by_cases hc : isChannelMsg m.1 = true
    · simp [recEvents, chanMsgs, hc]; simpa [chanMsgs] using ih m.2
    · have hc' : isChannelMsg m.1 = false := by simpa using hc
      simp [recEvents, chanMsgs, hc']; simpa [chanMsgs] using ih last

theorem recEvents_length (ticksOf : Int → Nat) (ms : List (Bytes × Int)) (last : Int) :
    (recEvents ticksOf last ms).length = (chanMsgs ms).length := by
  have := congrArg List.length (recEvents_msgs ticksOf ms last)
  simpa using this

theorem wrap32_id (x : Int) (h1 : -2147483648 ≤ x) (h2 : x < 2147483648) : wrap32 x = x := by
  unfold wrap32; omega

/-- between stamps in `[0, 2^31)` no difference wraps -/
theorem zipWith_wrap32 (ticksOf : Int → Nat) (l1 l2 : List Int) (h1 : ∀ t ∈ l1, 0 ≤ t ∧ t < 2147483648)
    (h2 : ∀ p ∈ l2, 0 ≤ p ∧ p < 2147483648) :
    List.zipWith (fun t p => ticksOf (wrap32 (t - p))) l1 l2 = List.zipWith (fun t p => ticksOf (t - p)) l1 l2 := by
  rw [← List.map_uncurry_zip_eq_zipWith, ← List.map_uncurry_zip_eq_zipWith]
  refine List.map_congr_left fun x hx => ?_
  have ht := h1 x.1 (List.of_mem_zip hx).1
  have hp := h2 x.2 (List.of_mem_zip hx).2
  simp only [Function.uncurry]
  rw [wrap32_id (x.1 - x.2) (by omega) (by omega)]

/-- `|ticksRef q (bn/bd) Δ − q·(bn/bd)·Δ/60000| ≤ 1/2`, multiplied out by `60000·bd` -/
theorem ticksRef_exact (q bn bd : Nat) (hbd : 0 < bd) (Δ : Int) (hΔ : 0 ≤ Δ) :
    2 * ((ticksRef q bn bd Δ : Int) * (60000 * bd) - q * bn * Δ).natAbs ≤ 60000 * bd := by
  obtain ⟨n, rfl⟩ := Int.eq_ofNat_of_zero_le hΔ
  unfold ticksRef
  simp only [Int.toNat_natCast]
  obtain ⟨h1, h2⟩ := Meta.roundDiv_nearest (q * bn * n) (60000 * bd) (by omega)
  have e1 : ((Meta.roundDiv (q * bn * n) (60000 * bd) : Nat) : Int) * (60000 * (bd : Int))
      = ((Meta.roundDiv (q * bn * n) (60000 * bd) * (60000 * bd) : Nat) : Int) := by
    simp [Int.natCast_mul]
  have e2 : (q : Int) * bn * (n : Int) = ((q * bn * n : Nat) : Int) := by simp [Int.natCast_mul]
  rw [e1, e2]
  generalize Meta.roundDiv (q * bn * n) (60000 * bd) * (60000 * bd) = X at *
  generalize q * bn * n = A at *
  omega

end Midi.Record
