import Proofs.MsgTotal
import MidiModel.Generated.Facts
/-!
# C08 — message classification is total, unambiguous and consistent with the accessors

Model: `MidiModel/Msg.lean`. A byte string is looked at as `midi.Message` (`View.midi`) or as
`smf.Message` (`View.smf`, where a leading `FF` means a meta event). Every index / slice expression of the
Go code is an explicit `m[i]?` / `slice` whose failure is the outcome `none` / `Res.panic`; the theorems
below show that outcome is unreachable — for all byte strings, of any length.
`specificAccepts m` lists the type-specific accessors of `midi.Message` with the type each is documented
for (`GetNoteOn` … `GetSysEx`; the derived views `GetNoteStart`, `GetNoteEnd`, `GetChannel` are not in it),
`smfSpecificAccepts m` adds the meta accessors of `smf.Message` (out parameters non-nil, as `String()`
calls them; `GetMetaMeter` / `GetMetaKey` are wrappers of `GetMetaTimeSig` / `GetMetaKeySig`).
-/
namespace Midi.C08
open Midi Midi.Msg

/-! ## the model's tables are the tables of the compiled library (regenerated on every run) -/

theorem type_constants_eq_facts : Msg.typeConstants = Facts.typeConstants := by decide

/-- type of `midi.Message{b}` for all 256 `b` -/
theorem model_table_eq_facts : (List.range 256).map (fun b => getType [b]) = Facts.midiType.map some := by
  decide +kernel

/-- type of `smf.Message{0xFF, b, 0}` for all 256 `b` (the meta type table) -/
theorem meta_table_eq_facts :
    (List.range 256).map (fun b => smfGetType [0xFF, b, 0]) = Facts.smfMetaType.map some := by decide +kernel

/-- type of `smf.Message{b}` for all 256 `b` (a lone `FF` is not a reset, it is unknown) -/
theorem smf_table_eq_facts : (List.range 256).map (fun b => smfGetType [b]) = Facts.smfType.map some := by
  decide +kernel

/-! ## totality: no panic, for every byte string -/

/-- `Type`, `Is`, `IsOneOf`, `IsPlayable`, `IsMeta` of both message types never panic -/
theorem type_total (m : Bytes) :
    getType m ≠ none ∧ smfGetType m ≠ none ∧ smfIsMeta m ≠ none ∧
    (∀ v T, msgIs v m T ≠ none) ∧ (∀ v cs, isOneOf v m cs ≠ none) ∧
    isPlayable m ≠ none ∧ smfIsPlayable m ≠ none := by
  obtain ⟨t, ht⟩ := getType_total m
  obtain ⟨t', ht'⟩ := smfGetType_total m
  obtain ⟨b, hb⟩ := smfIsMeta_total m
  exact ⟨by simp [ht], by simp [ht'], by simp [hb], fun v T => msgIs_ne_none v m T,
    fun v cs => isOneOf_ne_none v m cs, isPlayable_ne_none m, smfIsPlayable_ne_none m⟩

/-- no `Get*` accessor of `midi.Message` panics (derived views included) -/
theorem accessors_total (m : Bytes) :
    getNoteOn m ≠ .panic ∧ getNoteOff m ≠ .panic ∧ getPolyAfterTouch m ≠ .panic ∧ getAfterTouch m ≠ .panic ∧
    getControlChange m ≠ .panic ∧ getProgramChange m ≠ .panic ∧ getPitchBend m ≠ .panic ∧ getMTC m ≠ .panic ∧
    getSPP m ≠ .panic ∧ getSongSelect m ≠ .panic ∧ getSysEx m ≠ .panic ∧
    getNoteStart m ≠ .panic ∧ getNoteEnd m ≠ .panic ∧ getChannel m ≠ .panic :=
  ⟨get3_ne_panic _ m, get3_ne_panic _ m, get3_ne_panic _ m, get2_ne_panic _ m, get3_ne_panic _ m,
   get2_ne_panic _ m, getPitchBend_ne_panic m, get1_ne_panic _ m, getSPP_ne_panic m, get1_ne_panic _ m,
   getSysEx_ne_panic m, getNoteStart_ne_panic m, getNoteEnd_ne_panic m, getChannel_ne_panic m⟩

/-- no `GetMeta*` accessor of `smf.Message` panics -/
theorem meta_accessors_total (m : Bytes) :
    getMetaTempo m ≠ .panic ∧ getMetaTimeSig m ≠ .panic ∧ getMeta1 MetaChannelMsg m ≠ .panic ∧
    getMeta1 MetaPortMsg m ≠ .panic ∧ getMetaSeqNumber m ≠ .panic ∧ getMetaSMPTEOffset m ≠ .panic ∧
    getMetaSeqData m ≠ .panic ∧ getMetaKeySig m ≠ .panic ∧ ∀ T, getMetaText T m ≠ .panic :=
  ⟨getMetaTempo_ne_panic m, getMetaFixed_ne_panic _ _ _ (by omega) m, getMeta1_ne_panic _ m, getMeta1_ne_panic _ m,
   getMetaSeqNumber_ne_panic m, getMetaFixed_ne_panic _ _ _ (by omega) m, getMetaSeqData_ne_panic m,
   getMetaFixed_ne_panic _ _ _ (by omega) m, fun T => getMetaText_ne_panic T m⟩

/-- the control flow of `String()` (type name, then the first accepting accessor of the `switch`; for a
    meta message the meta `switch` and the text fall-back) never panics, for both message types -/
theorem string_total (m : Bytes) : strBranch m ≠ .panic ∧ smfStrBranch m ≠ .panic :=
  ⟨strBranch_ne_panic m, smfStrBranch_ne_panic m⟩

/-- what `String()` asks of the allocator through the length-prefixed reads (`ReadVarLengthData` for text
    and sequencer data) is bounded by the message itself, whatever length the VLQ declares -/
theorem string_alloc_bounded (m : Bytes) (b a : Nat) (h : smfStrBranch m = .yes (b, a)) :
    a ≤ max 4096 m.length := smfStrBranch_alloc m b a h

/-! ## exactly one category

`AllBytes m` (`∀ b ∈ m, b < 256`) and `b < 256` say what a message is made of; the proofs do not need them: a first byte
or meta type byte beyond the byte range has no type (`Msg.midi_category`, `Msg.smf_category`, `Msg.meta_cat`). -/
set_option linter.unusedVariables false

/-- a `midi.Message` belongs to exactly one of unknown / real-time / system common / channel / sysex,
    and is never a meta message -/
theorem category_partition (m : Bytes) (h : AllBytes m) :
    (midiCategories.filter (fun c => msgIs .midi m c == some true)).length = 1 ∧
    msgIs .midi m MetaMsg = some false := midi_category m

/-- an `smf.Message` belongs to exactly one of unknown / real-time / system common / channel / sysex / meta -/
theorem smf_category_partition (m : Bytes) (h : AllBytes m) :
    (categories.filter (fun c => msgIs .smf m c == some true)).length = 1 := smf_category m

/-- a leading `FF` followed by a type byte means a meta event (or unknown), never the real-time reset
    that `midi.Message` sees in the same bytes -/
theorem leading_ff_is_meta (b : Nat) (r : Bytes) (hb : b < 256) :
    smfGetType (0xFF :: b :: r) = some (getMetaType b) ∧
    (msgIs .smf (0xFF :: b :: r) UnknownMsg = some true ∨ msgIs .smf (0xFF :: b :: r) MetaMsg = some true) ∧
    msgIs .smf (0xFF :: b :: r) RealTimeMsg = some false ∧
    getType (0xFF :: b :: r) = some ResetMsg := by
  have ht := smfGetType_meta b r
  refine ⟨ht, ?_, ?_, getType_cons 0xFF (b :: r)⟩
  · rw [msgIs_of_type (v := .smf) ht, msgIs_of_type (v := .smf) ht]
    rcases (meta_cat b).2.1 with h | h
    · left
      rw [h]
      rfl
    · right
      rw [h]
  · rw [msgIs_of_type (v := .smf) ht, (meta_cat b).2.2]

/-! ## accessors and the reported type -/

/-- an accessor accepts only if the reported type is the accessor's type (`midi.Message`) -/
theorem accessor_implies_type (m : Bytes) (p : Int × Bool) (hp : p ∈ specificAccepts m) (ha : p.2 = true) :
    getType m = some p.1 := specific_accept_type m p hp ha

/-- the same for `smf.Message`, forwarded and meta accessors alike -/
theorem smf_accessor_implies_type (m : Bytes) (p : Int × Bool) (hp : p ∈ smfSpecificAccepts m) (ha : p.2 = true) :
    smfGetType m = some p.1 := smf_specific_accept_type m p hp ha

/-- at most one type-specific accessor accepts (`midi.Message`): two accepting entries are the same entry -/
theorem at_most_one_accessor (m : Bytes) (p q : Int × Bool) (hp : p ∈ specificAccepts m) (hq : q ∈ specificAccepts m)
    (ha : p.2 = true) (hb : q.2 = true) : p = q := by
  have h1 := specific_accept_type m p hp ha
  have h2 := specific_accept_type m q hq hb
  have he : p.1 = q.1 := Option.some.inj (h1.symm.trans h2)
  exact Prod.ext he (ha.trans hb.symm)

/-- the same for `smf.Message` -/
theorem smf_at_most_one_accessor (m : Bytes) (p q : Int × Bool) (hp : p ∈ smfSpecificAccepts m)
    (hq : q ∈ smfSpecificAccepts m) (ha : p.2 = true) (hb : q.2 = true) : p = q := by
  have h1 := smf_specific_accept_type m p hp ha
  have h2 := smf_specific_accept_type m q hq hb
  have he : p.1 = q.1 := Option.some.inj (h1.symm.trans h2)
  exact Prod.ext he (ha.trans hb.symm)

/-- the accessors are documented for pairwise different types, so "the same entry" is "the same accessor" -/
theorem accessor_types_distinct (m : Bytes) :
    ((specificAccepts m).map (·.1)).Nodup ∧ ((smfSpecificAccepts m).map (·.1)).Nodup :=
  ⟨specific_types_nodup m, smf_specific_types_nodup m⟩

/-! Non-vacuity: concrete byte strings meet `AllBytes`; short, overlong and undefined-status messages and
    the 4 GiB length field are classified without a panic outcome. -/
example : AllBytes [0x90, 0x40, 0x7F] ∧ AllBytes [0xFF, 0x01, 0x8F, 0xFF, 0xFF, 0xFF, 0x7F] := by
  constructor <;> intro b hb <;> simp at hb <;> omega
example : getNoteOn [0x90] = .no ∧ getNoteOn [0x90, 1, 2, 3] = .no ∧ getType [0xF4, 1] = some UnknownMsg ∧
    getNoteOn [0x90, 0x40, 0x7F] = .yes (0, 0x40, 0x7F) := by decide
example : smfStrBranch [0xFF, 0x01, 0x8F, 0xFF, 0xFF, 0xFF, 0x7F] = .yes (9, 0) ∧
    smfStrBranch [0xFF, 0x01, 0x8F, 0x7F] = .yes (9, 2047) := by decide
example : (smfSpecificAccepts [0xFF, 0x51, 3, 7, 161, 32]).filter (·.2) = [(MetaTempoMsg, true)] := by decide

end Midi.C08
