import Props.C04_Code
/-!
# C06, tie to the source: the translated `reader.go` never reaches a `panic` and emits the model's frames

See `Props/C04_Code.lean` for what is translated and what is trusted. C06's own theorems (`Props/C06.lean`) speak
about the model `Live.feed`; this file transports them to the translation of the code in the working tree.
-/
namespace Midi.C06
open Midi Midi.Live Midi.Go Midi.Tie

/-- the translated reader returns normally (`Except.ok`) on every byte stream and chunking: neither `panic` of
    `reader.go`, no index out of range in the sysex buffer handling -/
theorem code_reader_total (c : Cfg) (hc : c.buf < 4294967296) (chunks : List (Int × Bytes))
    (hb : ∀ ch ∈ chunks, ∀ b ∈ ch.2, b < 256) :
    ∃ r0 r', newReader c = .ok r0 ∧ goFeed r0 chunks = .ok r' := by
  obtain ⟨r0, r', h0, h1, _⟩ := C04.code_reader_refines_model c hc chunks hb
  exact ⟨r0, r', h0, h1⟩

/-- every frame the translated reader hands to `OnMsg` is a well-formed raw frame (`WfFrame`, Proofs/LiveInv) -/
theorem code_frames_wellformed (c : Cfg) (hc : c.buf < 4294967296) (chunks : List (Int × Bytes))
    (hb : ∀ ch ∈ chunks, ∀ b ∈ ch.2, b < 256) :
    ∃ r0 r', newReader c = .ok r0 ∧ goFeed r0 chunks = .ok r' ∧
      ∀ f ∈ evFrames r'.trace, WfFrame c f := by
  obtain ⟨r0, r', h0, h1, h3⟩ := C04.code_reader_refines_model c hc chunks hb
  refine ⟨r0, r', h0, h1, fun f hf => ?_⟩
  rw [h3] at hf
  obtain ⟨g, hg, rfl⟩ := List.mem_map.mp hf
  -- `WfFrame` looks at the bytes only, `wrapFrame` changes the time stamp only
  exact (feed_inv c (chunkToks chunks) init (init_inv c)).2 g hg

end Midi.C06
