import Proofs.SequencerSpec
/-!
# C20 helper lemmas: on the domain the model computes what the specification prescribes, function by function

Bar lengths and bar starts, the ticks of one event, the time-signature events.  Every model function that
carries a `%` gets one lemma on variables saying when the `%` does nothing (`u32sub_eq`, `u32mul`,
`Bar.len_of_lt`, `t32_of`); the domain (`SigOK`, `Dom.res`) is put in afterwards.
-/
namespace Midi.Sequencer
open Midi Midi.Smf

theorem u32sub_eq {a b : Nat} (h1 : b ≤ a) (h2 : a < 4294967296) : u32sub a b = a - b := by
  unfold u32sub
  rw [← Int.ofNat_sub h1]
  exact congrArg Int.toNat (Int.emod_eq_of_lt (Int.natCast_nonneg _) (by omega))

/-- `Ticks32th() * uint32(x)` for a `uint8` `x`; a 16-bit resolution has `Ticks32th() ≤ 65535 / 8` -/
theorem u32mul (t x : Nat) (ht : t ≤ 8191) (hx : x < 256) : t * (x % 4294967296) % 4294967296 = x * t := by
  rw [Nat.mod_eq_of_lt (Nat.lt_trans hx (by decide)), Nat.mul_comm]
  exact Nat.mod_eq_of_lt (Nat.lt_of_le_of_lt (Nat.mul_le_mul (Nat.le_of_lt_succ hx) ht) (by decide))

theorem Bar.len_of_lt (b : Bar) (hn : b.num < 2048) (hd0 : 0 < b.den) (hd : b.den < 65536)
    (hl : b.num * 32 / b.den < 256) : b.len = some (b.num * 32 / b.den) := by
  unfold Bar.len
  rw [Nat.mod_eq_of_lt hd, Nat.mod_eq_of_lt (by omega : b.num < 65536),
    Nat.mod_eq_of_lt (by omega : b.num * 32 < 65536), Nat.mod_eq_of_lt hl, if_neg (by omega)]

theorem t32_of (q : Nat) (h0 : q ≠ 0) (h : q < 65536) (h8 : q % 8 = 0) : t32 q = q / 8 := by
  have h1 : (q + 4) / 8 = q / 8 := by omega
  have h2 : q / 8 < 4294967296 := by omega
  unfold t32 resolution
  rw [if_neg h0, Nat.mod_eq_of_lt h, h1, Nat.mod_eq_of_lt h2]

theorem SigOK.den {b : Bar} (h : SigOK b) : 1 ≤ b.den ∧ b.den ≤ 32 := by
  rcases h.2.2.1 with hd | hd | hd | hd | hd | hd <;> rw [hd] <;> decide

theorem Bar.len_eq (b : Bar) (h : SigOK b) : b.len = some (len32 b) :=
  Bar.len_of_lt b (Nat.lt_of_le_of_lt h.2.1 (by decide)) h.den.1 (Nat.lt_of_le_of_lt h.den.2 (by decide))
    (Nat.lt_succ_of_le h.2.2.2)

theorem len32_pos (b : Bar) (h : SigOK b) : 1 ≤ len32 b ∧ len32 b ≤ 255 :=
  ⟨Nat.div_pos (by have := h.1; have := h.den.2; omega) h.den.1, h.2.2.2⟩

theorem t32_eq (s : Song) (h : s.ticks < 65536 ∧ s.ticks % 8 = 0) :
    t32 (if s.ticks = 0 then 960 else s.ticks) = tq s ∧ 1 ≤ tq s ∧ tq s ≤ 8191 := by
  unfold tq
  split
  · exact ⟨by decide, by decide, by decide⟩
  · exact ⟨t32_of _ ‹_› h.1 h.2, by omega, by omega⟩

theorem place_eq (t : Nat) : ∀ (bars : List Bar) (st : Nat), (∀ b ∈ bars, SigOK b) →
    place t st bars = some (laid t st bars, endOf t st bars)
  | [], _, _ => rfl
  | b :: r, st, h => by
    have hb := Bar.len_eq b (h b (by simp))
    have hr := place_eq t r (st + len32 b * t) (fun b hb => h b (by simp [hb]))
    simp only [place, hb, hr, laid, endOf]

theorem laid_map_snd (t : Nat) : ∀ (bars : List Bar) (st : Nat), (laid t st bars).map (·.2) = bars
  | [], _ => rfl
  | b :: r, st => by simp [laid, laid_map_snd t r]

theorem laid_length (t : Nat) (bars : List Bar) (st : Nat) : (laid t st bars).length = bars.length := by
  have := congrArg List.length (laid_map_snd t bars st)
  simpa using this

theorem endOf_ge (t : Nat) : ∀ (bars : List Bar) (st : Nat), st ≤ endOf t st bars
  | [], _ => Nat.le_refl _
  | b :: r, st => Nat.le_trans (Nat.le_add_right _ _) (endOf_ge t r (st + len32 b * t))

theorem laid_mem (t : Nat) : ∀ (bars : List Bar) (st : Nat) (sb : Nat × Bar), sb ∈ laid t st bars →
    st ≤ sb.1 ∧ sb.1 + len32 sb.2 * t ≤ endOf t st bars ∧ sb.2 ∈ bars
  | [], _, _, h => by simp [laid] at h
  | _ :: r, _, sb, h => by
    rcases List.mem_cons.1 h with rfl | h
    · exact ⟨Nat.le_refl _, endOf_ge t r _, by simp⟩
    · have := laid_mem t r _ sb h
      exact ⟨by omega, this.2.1, by simp [this.2.2]⟩

theorem laid_pairwise (t : Nat) : ∀ (bars : List Bar) (st : Nat),
    (laid t st bars).Pairwise (fun a b => a.1 + len32 a.2 * t ≤ b.1)
  | [], _ => List.Pairwise.nil
  | _ :: r, _ => List.Pairwise.cons (fun sb hsb => (laid_mem t r _ sb hsb).1) (laid_pairwise t r _)

/-- `(laid t st bars).map (·.1) ++ [endOf t st bars]`: the bar boundaries, every start and then the end of
    the last bar -/
theorem bounds_head (t : Nat) (bars : List Bar) (st : Nat) :
    ((laid t st bars).map (·.1) ++ [endOf t st bars])[0]? = some st := by
  cases bars <;> rfl

theorem bounds_succ (t : Nat) : ∀ (bars : List Bar) (st k : Nat) (b : Bar), bars[k]? = some b →
    ∃ s, ((laid t st bars).map (·.1) ++ [endOf t st bars])[k]? = some s ∧
      ((laid t st bars).map (·.1) ++ [endOf t st bars])[k+1]? = some (s + len32 b * t)
  | [], _, _, _, h => by simp at h
  | b0 :: r, st, 0, b, h => by
    cases (Option.some.inj h : b0 = b)
    exact ⟨st, rfl, bounds_head t r _⟩
  | b0 :: r, st, k+1, b, h => bounds_succ t r (st + len32 b0 * t) k b h

theorem setDeltas_map {β : Type} (f : TEv → β) (hf : ∀ e d, f { e with delta := d } = f e) :
    ∀ (l : List TEv) (last : Nat), (setDeltas last l).map f = l.map f
  | [], _ => rfl
  | e :: r, last => by simp [setDeltas, setDeltas_map f hf r, hf]

theorem noteStart_ch (m : Msg) (ch k : Nat) (h : noteStart m = some (ch, k)) : ch < 16 := by
  unfold noteStart at h
  split at h
  · split at h
    · cases h; exact Nat.mod_lt _ (by decide)
    · cases h
  · cases h

theorem noteOff_msgOK (ch key : Nat) (h : ch < 16) : MsgOK (noteOffMsg ch key) :=
  ⟨0x80 + ch, [key, 0], rfl, Or.inl (by simp [isChanStatus]; omega)⟩

theorem nibbles (hi lo : Nat) (h : lo < 16) : (16 * hi + lo) / 16 = hi ∧ (16 * hi + lo) % 16 = lo := by
  rw [Nat.mul_add_div (by decide), Nat.div_eq_of_lt h, Nat.mul_add_mod, Nat.mod_eq_of_lt h]
  exact ⟨rfl, rfl⟩

theorem noteStart_bytes (ch key vel : Nat) (h1 : ch < 16) (h2 : key < 128) (h3 : 0 < vel) (h4 : vel < 128) :
    noteStart [0x90 + ch, key, vel] = some (ch, key) := by
  obtain ⟨e1, e2⟩ := nibbles 9 ch h1
  show noteStart [16 * 9 + ch, key, vel] = _
  simp only [noteStart, e1, e2, Nat.mod_eq_of_lt h2, Nat.mod_eq_of_lt h4]
  exact if_pos ⟨by omega, by omega, trivial, Nat.ne_of_gt h3⟩

theorem mem_evSpec (t st : Nat) (e : Event) (x : TEv) : x ∈ evSpec t st e ↔
    x = ⟨st + e.pos * t, 0, e.msg, e.trackNo⟩ ∨
    ∃ ck, noteStart e.msg = some ck ∧ e.dur ≠ 0 ∧
      x = ⟨st + (e.pos + e.dur) * t, 0, noteOffMsg ck.1 ck.2, e.trackNo⟩ := by
  unfold evSpec
  cases noteStart e.msg with
  | none => simp
  | some ck => by_cases h : e.dur = 0 <;> simp [h]

theorem evTEvs_eq (t st : Nat) (e : Event) (ht1 : 1 ≤ t) (ht : t ≤ 8191) (hp : e.pos < 256) (hd : e.dur < 256) :
    evTEvs t st e = evSpec t st e := by
  unfold evTEvs evSpec Event.absTicks
  rw [u32mul t _ ht hp, u32mul t _ ht hd]
  by_cases h0 : e.dur = 0
  · simp only [h0, if_true]; cases noteStart e.msg <;> simp
  · -- Go's test `end != 0` is `Duration > 0`, a thirty-second being at least one tick
    have hz : st + (e.pos * t + e.dur * t) ≠ 0 := by have := Nat.mul_pos (Nat.pos_of_ne_zero h0) ht1; omega
    simp only [h0, if_false, hz, Nat.add_mul, Nat.add_assoc, ne_eq, not_false_eq_true, if_true]
    cases noteStart e.msg <;> rfl

theorem metaMeter_bytes (n d : Nat) (h : d ≠ 0) : metaMeter n d = [0xFF, 0x58, 4, n, dec2bin d, 8, 8] := by
  have : Vlq.encode 4 = [4] := by decide
  simp [metaMeter, metaMsg, h, this]

theorem dec2bin_log : ∀ d ∈ [1, 2, 4, 8, 16, 32], dec2bin d =
    (if d = 1 then 0 else if d = 2 then 1 else if d = 4 then 2 else if d = 8 then 3 else if d = 16 then 4 else 5) := by
  decide

theorem metaMeter_eq (b : Bar) (h : SigOK b) : metaMeter b.num b.den = meterBytes b.num b.den := by
  rw [metaMeter_bytes _ _ (Nat.ne_of_gt h.den.1), dec2bin_log _ (by simpa using h.2.2.1)]
  rfl

theorem sigChanges_sublist : ∀ (placed : List (Nat × Bar)) (sig : Nat × Nat),
    (sigChanges sig placed).Sublist (placed.map (fun sb => (sb.1, meterBytes sb.2.num sb.2.den)))
  | [], _ => List.Sublist.slnil
  | (st, b) :: r, sig => by
    simp only [sigChanges, List.map_cons]
    split
    · exact (sigChanges_sublist r _).cons _
    · exact (sigChanges_sublist r _).cons_cons _

theorem sigEvts_eq : ∀ (placed : List (Nat × Bar)) (sig : Nat × Nat), (∀ sb ∈ placed, SigOK sb.2) →
    sigEvts sig placed = (sigChanges sig placed).map (fun x => ⟨x.1, 0, x.2, 0⟩)
  | [], _, _ => rfl
  | (st, b) :: r, sig, h => by
    have hb : SigOK b := h (st, b) (by simp)
    have hr := fun sg => sigEvts_eq r sg (fun sb hsb => h sb (by simp [hsb]))
    have hn : ¬ (b.num = 0 ∧ b.den = 0) := fun hc => by have := hb.1; omega
    by_cases hs : (b.num, b.den) = sig
    · simp only [sigEvts, sigChanges, hs, ne_eq, not_true_eq_false, and_false, if_false, if_true, hr]
    · simp only [sigEvts, sigChanges, hs, hn, ne_eq, not_false_eq_true, and_self, if_true, if_false,
        List.map_cons, hr, metaMeter_eq b hb]

/-- what `AddBar` may be given: no signature (`[0,0]`) or one of the domain -/
def InputSigOK (b : Bar) : Prop := (b.num = 0 ∧ b.den = 0) ∨ SigOK b

theorem addBar_sigs (s : Song) (b : Bar) (hs : ∀ x ∈ s.bars, SigOK x) (hb : InputSigOK b) :
    ∀ x ∈ (s.addBar b).bars, SigOK x := by
  intro x hx
  rcases List.mem_append.1 hx with hx | hx
  · exact hs x hx
  · rw [List.mem_singleton.1 hx]
    split
    · cases hl : s.bars.getLast? with
      | none => simp [SigOK]
      | some l => exact hs l (List.mem_of_getLast? hl)
    · exact hb.resolve_left ‹_›

theorem foldl_addBar_sigs : ∀ (bs : List Bar) (s : Song), (∀ x ∈ s.bars, SigOK x) → (∀ b ∈ bs, InputSigOK b) →
    ∀ x ∈ (bs.foldl Song.addBar s).bars, SigOK x
  | [], _, hs, _ => hs
  | b :: r, s, hs, hb => by
    simp only [List.foldl_cons]
    exact foldl_addBar_sigs r (s.addBar b) (addBar_sigs s b hs (hb b (by simp))) (fun x hx => hb x (by simp [hx]))

end Midi.Sequencer
