import MidiModel.Generated.StateShape
import Proofs.StateShapeExpected
/-!
# C13, tie to the source: the state the code keeps has the shape the model assumes
(the packages this property's models read; the comparison is explained in `Props/C01_State.lean`)
-/
namespace Midi.C13
theorem code_state_shape_smf : Midi.StateShape.smf = Midi.StateShapeExpected.smf := rfl
theorem code_state_shape_root : Midi.StateShape.root = Midi.StateShapeExpected.root := rfl
theorem code_state_shape_drivers : Midi.StateShape.drivers = Midi.StateShapeExpected.drivers := rfl
theorem code_state_shape_drivers_testdrv : Midi.StateShape.drivers_testdrv = Midi.StateShapeExpected.drivers_testdrv := rfl
end Midi.C13
