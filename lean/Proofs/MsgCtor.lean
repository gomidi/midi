import Proofs.Msg
/-! Constructors of `MidiModel/Msg.lean`: byte layout, and what the accessors return on it (C07). -/
namespace Midi.Msg

theorem channelMessage2_eq (c st a b : Nat) (hst : st < 16) :
    channelMessage2 (clampHi c 15) st a b = [st * 16 + min c 15, a, b] := by
  simp only [channelMessage2, clampHi_eq]
  rw [getCompleteStatus_eq st hst (min c 15) (by omega)]

theorem channelMessage1_eq (c st a : Nat) (hst : st < 16) :
    channelMessage1 (clampHi c 15) st a = [st * 16 + min c 15, a] := by
  simp only [channelMessage1, clampHi_eq]
  rw [getCompleteStatus_eq st hst (min c 15) (by omega)]

theorem noteOn_eq (ch k v : Nat) : noteOn ch k v = [0x90 + min ch 15, min k 127, min v 127] := by
  simp only [noteOn, clampHi_eq k, clampHi_eq v]; rw [channelMessage2_eq _ _ _ _ (by omega)]
theorem noteOffVelocity_eq (ch k v : Nat) : noteOffVelocity ch k v = [0x80 + min ch 15, min k 127, min v 127] := by
  simp only [noteOffVelocity, clampHi_eq k, clampHi_eq v]; rw [channelMessage2_eq _ _ _ _ (by omega)]
theorem noteOff_eq (ch k : Nat) : noteOff ch k = [0x80 + min ch 15, min k 127, 0] := by
  simp only [noteOff, clampHi_eq k]; rw [channelMessage2_eq _ _ _ _ (by omega)]
theorem polyAfterTouch_eq (ch k p : Nat) : polyAfterTouch ch k p = [0xA0 + min ch 15, min k 127, min p 127] := by
  simp only [polyAfterTouch, clampHi_eq k, clampHi_eq p]; rw [channelMessage2_eq _ _ _ _ (by omega)]
theorem controlChange_eq (ch c v : Nat) : controlChange ch c v = [0xB0 + min ch 15, min c 127, min v 127] := by
  simp only [controlChange, clampHi_eq c, clampHi_eq v]; rw [channelMessage2_eq _ _ _ _ (by omega)]
theorem programChange_eq (ch p : Nat) : programChange ch p = [0xC0 + min ch 15, min p 127] := by
  simp only [programChange, clampHi_eq p]; rw [channelMessage1_eq _ _ _ (by omega)]
theorem afterTouch_eq (ch p : Nat) : afterTouch ch p = [0xD0 + min ch 15, min p 127] := by
  simp only [afterTouch, clampHi_eq p]; rw [channelMessage1_eq _ _ _ (by omega)]

theorem pitchbend_eq (ch : Nat) (v : Int) :
    pitchbend ch v = some [0xE0 + min ch 15, (clampPitch v + 8192).toNat % 128, (clampPitch v + 8192).toNat / 128] := by
  have hc := clampPitch_eq v
  have h1 : -8192 ≤ clampPitch v := by omega
  have h2 : clampPitch v ≤ 8191 := by omega
  unfold pitchbend
  rw [msbLsbSigned_eq _ h1 h2]
  have hu : (clampPitch v + 8192).toNat < 16384 := by omega
  generalize (clampPitch v + 8192).toNat = u at hu ⊢
  have e := hi_lo_bytes (u % 128) (u / 128) (by omega) (by omega)
  simp only [Nat.shiftRight_eq_div_pow, Nat.reducePow, e.1, e.2]
  rw [channelMessage2_eq _ _ _ _ (by omega)]

theorem spp_eq (p : Nat) : spp p = [0xF2, p % 128, p / 128 % 128] := by
  simp only [spp, and7f, Nat.shiftRight_eq_div_pow, Nat.reducePow]
  congr 2
  · omega
  · congr 1; omega

theorem songSelect_eq (s : Nat) : songSelect s = [0xF3, s % 128] := by simp only [songSelect, and7f]
theorem mtc_eq (m : Nat) : mtc m = [0xF1, m % 128] := by
  simp only [mtc, and7f]; congr 2; omega

theorem type_8x : ∀ c < 16, typeOfStatus (0x80 + c) = NoteOffMsg := by decide
theorem type_9x : ∀ c < 16, typeOfStatus (0x90 + c) = NoteOnMsg := by decide
theorem type_Ax : ∀ c < 16, typeOfStatus (0xA0 + c) = PolyAfterTouchMsg := by decide
theorem type_Bx : ∀ c < 16, typeOfStatus (0xB0 + c) = ControlChangeMsg := by decide
theorem type_Cx : ∀ c < 16, typeOfStatus (0xC0 + c) = ProgramChangeMsg := by decide
theorem type_Dx : ∀ c < 16, typeOfStatus (0xD0 + c) = AfterTouchMsg := by decide
theorem type_Ex : ∀ c < 16, typeOfStatus (0xE0 + c) = PitchBendMsg := by decide

theorem chan_of_status (hi c : Nat) (hhi : hi < 16) (hc : c < 16) : (parseStatus (hi * 16 + c)).2 = c := by
  rw [parseStatus_eq _ (by omega)]; simp only; omega

theorem typeIs_self (T : Int) (h : 0 < T) : typeIs T T = true := by
  rw [typeIs_of_specific T T (.inl h), decide_eq_true rfl]

theorem get3_own (T : Int) (hT : 0 < T) (s a b : Nat) (hs : typeOfStatus s = T) :
    get3 T [s, a, b] = .yes ((parseStatus s).2, a % 128, b % 128) := by
  simp [get3, msgIs_cons, hs, typeIs_self T hT, parseUint7_eq]

theorem get2_own (T : Int) (hT : 0 < T) (s a : Nat) (hs : typeOfStatus s = T) :
    get2 T [s, a] = .yes ((parseStatus s).2, a % 128) := by
  simp [get2, msgIs_cons, hs, typeIs_self T hT, parseUint7_eq]

theorem get1_own (T : Int) (hT : 0 < T) (s a : Nat) (hs : typeOfStatus s = T) :
    get1 T [s, a] = .yes (a % 128) := by
  simp [get1, msgIs_cons, hs, typeIs_self T hT, parseUint7_eq]

theorem getPitchBend_own (s a b : Nat) (hs : typeOfStatus s = PitchBendMsg) :
    getPitchBend [s, a, b] =
      .yes ((parseStatus s).2, ((b % 128 * 128 + a % 128 : Nat) : Int) - 8192, b % 128 * 128 + a % 128) := by
  simp [getPitchBend, msgIs_cons, hs, typeIs_self PitchBendMsg (by decide), parsePitchWheelVals_eq]

theorem getSPP_own (a b : Nat) : getSPP [0xF2, a, b] = .yes (b % 128 * 128 + a % 128) := by
  have hs : typeOfStatus 0xF2 = SPPMsg := by decide
  simp [getSPP, msgIs_cons, hs, typeIs_self SPPMsg (by decide), parsePitchWheelVals_eq]

theorem min127_mod (k : Nat) : min k 127 % 128 = min k 127 := by omega

theorem get3_chan (T : Int) (hT : 0 < T) (hi ch a b : Nat) (hhi : hi < 16)
    (hty : ∀ c < 16, typeOfStatus (hi * 16 + c) = T) :
    get3 T [hi * 16 + min ch 15, min a 127, min b 127] = .yes (min ch 15, min a 127, min b 127) := by
  rw [get3_own T hT _ _ _ (hty _ (by omega)), chan_of_status hi _ hhi (by omega), min127_mod, min127_mod]

theorem get2_chan (T : Int) (hT : 0 < T) (hi ch a : Nat) (hhi : hi < 16)
    (hty : ∀ c < 16, typeOfStatus (hi * 16 + c) = T) :
    get2 T [hi * 16 + min ch 15, min a 127] = .yes (min ch 15, min a 127) := by
  rw [get2_own T hT _ _ (hty _ (by omega)), chan_of_status hi _ hhi (by omega), min127_mod]

end Midi.Msg
