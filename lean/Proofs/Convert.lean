import Proofs.ConvertSpec
import Proofs.ListClasses
/-!
# Lemmas about the model of `ConvertToSMF1`

The loops in closed form: `splitLoop` files under every selector `sel` the events of the source with their absolute ticks
(`bucket t sel`), `mkTrack` re-deltas one bucket (`deltas`) and closes it; hence `convert` in closed form (`convert_shape`).
Then what a result track `mkTrack (bucket t sel)` carries when it is read back the way a consumer reads it, and the domain.
-/
namespace Midi.Convert
open Midi.Smf

theorem getChannel_some_iff (m : Msg) (c : Nat) : getChannel m = some c ↔ IsChanMsg m c := by
  constructor
  · intro h
    cases m with
    | nil => simp [getChannel] at h
    | cons b r =>
      simp only [getChannel] at h
      by_cases hb : isChanStatus b = true
      · rw [if_pos hb] at h
        simp only [isChanStatus, Bool.and_eq_true, decide_eq_true_eq] at hb
        exact ⟨b, r, rfl, hb.1, hb.2, by simpa using h.symm⟩
      · rw [if_neg hb] at h; cases h
  · rintro ⟨b, r, rfl, h1, h2, rfl⟩
    have : isChanStatus b = true := by simp [isChanStatus, h1, h2]
    simp [getChannel, this]

theorem getChannel_none_iff (m : Msg) : getChannel m = none ↔ IsNonChan m := by
  constructor
  · intro h c hc
    rw [← getChannel_some_iff, h] at hc; cases hc
  · intro h
    cases hg : getChannel m with
    | none => rfl
    | some c => exact absurd ((getChannel_some_iff m c).1 hg) (h c)

theorem getChannel_lt (m : Msg) (c : Nat) (h : getChannel m = some c) : c < 16 := by
  obtain ⟨b, _, _, _, _, rfl⟩ := (getChannel_some_iff m c).1 h
  omega

theorem getChannel_EOT : getChannel EOT = none := by decide

theorem mem_channelsOf (t : Track) (c : Nat) : c ∈ channelsOf t ↔ ∃ e ∈ t, IsChanMsg e.msg c := by
  simp only [channelsOf, List.mem_filter, List.mem_range, List.any_eq_true, beq_iff_eq, getChannel_some_iff]
  exact ⟨fun ⟨_, h⟩ => h, fun ⟨e, he, hc⟩ => ⟨getChannel_lt _ _ ((getChannel_some_iff _ _).2 hc), e, he, hc⟩⟩

theorem isClosed_concat (t : Track) (e : Event) : Track.isClosed (t ++ [e]) = (e.msg == EOT) := by
  simp [Track.isClosed]

theorem add_one (t : Track) (δ : Nat) (m : Msg) (h : t.isClosed = false) :
    t.add δ [m] = t ++ [⟨δ, m⟩] := by
  simp [Track.add, h, addEvents]

/-- the `TrackEvent`s the first loop makes of a track: `timedFrom` in the record type of the model (`timedFrom_eq`) -/
def absList : Nat → Track → List TE
  | _, [] => []
  | a, e :: r => ⟨a + e.delta, e.msg⟩ :: absList (a + e.delta) r

def TE.pair (te : TE) : Nat × Msg := (te.abs, te.msg)

theorem timedFrom_eq (a : Nat) (t : Track) : timedFrom a t = (absList a t).map TE.pair := by
  induction t generalizing a with
  | nil => rfl
  | cons e r ih => simp [timedFrom, absList, ih, TE.pair]

theorem timedFrom_msgs (a : Nat) (t : Track) : (timedFrom a t).map (·.2) = t.map (·.msg) := by
  induction t generalizing a with
  | nil => rfl
  | cons e r ih => simp [timedFrom, ih]

theorem absList_msgs (a : Nat) (t : Track) : (absList a t).map (·.msg) = t.map (·.msg) := by
  rw [← timedFrom_msgs a t, timedFrom_eq, List.map_map]
  rfl

theorem mem_timed (t : Track) (m : Msg) : (∃ a, (a, m) ∈ timed t) ↔ ∃ e ∈ t, e.msg = m := by
  have h : m ∈ (timed t).map (·.2) ↔ m ∈ t.map (·.msg) := by rw [timed, timedFrom_msgs]
  simpa using h

/-- the event that makes a channel occur is no end-of-track, so it is in the payload -/
theorem payload_onChan_ne_nil (t : Track) (c : Nat) (h : c ∈ channelsOf t) : (payload t).filter (onChan c) ≠ [] := by
  obtain ⟨e, he, hch⟩ := (mem_channelsOf t c).1 h
  have hg := (getChannel_some_iff _ _).2 hch
  have hne : e.msg ≠ EOT := fun heq => by rw [heq, getChannel_EOT] at hg; cases hg
  obtain ⟨a, ha⟩ := (mem_timed t e.msg).2 ⟨e, he, rfl⟩
  exact List.ne_nil_of_mem (a := (a, e.msg))
    (List.mem_filter.2 ⟨List.mem_filter.2 ⟨ha, by simpa using hne⟩, by simpa [onChan] using hg⟩)

theorem splitLoop_meta (a : Nat) (b : Buckets) (t : Track) :
    (splitLoop a b t).metaEvs = b.metaEvs ++ (absList a t).filter (fun te => getChannel te.msg == none) := by
  induction t generalizing a b with
  | nil => simp [splitLoop, absList]
  | cons e r ih =>
    simp only [splitLoop, absList]
    cases h : getChannel e.msg <;> simp [ih, h]

theorem splitLoop_chans (a : Nat) (b : Buckets) (t : Track) (c : Nat) :
    (splitLoop a b t).chans[c]? =
      b.chans[c]?.map (· ++ (absList a t).filter (fun te => getChannel te.msg == some c)) := by
  induction t generalizing a b with
  | nil => simp [splitLoop, absList]
  | cons e r ih =>
    simp only [splitLoop, absList]
    cases h : getChannel e.msg with
    | none =>
      simp only [ih, List.filter_cons, h]
      simp
    | some c' =>
      simp only [ih, List.filter_cons, h, List.getElem?_modify]
      cases b.chans[c]? with
      | none => simp
      | some l =>
        by_cases hc : c' = c
        · subst hc; simp
        · have : (some c' == some c) = false := by simp [hc]
          simp [hc, this]

/-- what the first loop files under a selector: `metaTrack` for `offChan`, `channelTracks[c]` for `onChan c` -/
def bucket (t : Track) (sel : Nat × Msg → Bool) : List TE := (absList 0 t).filter (sel ∘ TE.pair)

theorem splitLoop_empty_meta (t : Track) : (splitLoop 0 Buckets.empty t).metaEvs = bucket t offChan :=
  splitLoop_meta 0 Buckets.empty t

theorem splitLoop_empty_chans (t : Track) :
    (splitLoop 0 Buckets.empty t).chans = (List.range 16).map (fun c => bucket t (onChan c)) := by
  apply List.ext_getElem?
  intro c
  rw [splitLoop_chans]
  simp only [Buckets.empty, List.getElem?_replicate, List.getElem?_map]
  by_cases hc : c < 16 <;> simp [hc, bucket, onChan, Function.comp_def, TE.pair]

theorem bucket_pairs (t : Track) (sel : Nat × Msg → Bool) : (bucket t sel).map TE.pair = (timed t).filter sel := by
  rw [bucket, timed, timedFrom_eq, List.filter_map]

/-- closed form of `rebuild` on a track that stays open -/
def deltas : Nat → List TE → Track
  | _, [] => []
  | last, te :: r => ⟨u32sub te.abs last, te.msg⟩ :: deltas te.abs r

/-- `EOTOnlyLast` on the model's `TE`s -/
def NoEarlyEOT (evs : List TE) : Prop := ∀ te ∈ evs.dropLast, te.msg ≠ EOT

theorem rebuild_eq (t : Track) (last : Nat) (evs : List TE)
    (ht : t.isClosed = false) (h : NoEarlyEOT evs) :
    rebuild t last evs = t ++ deltas last evs := by
  induction evs generalizing t last with
  | nil => simp [rebuild, deltas]
  | cons te r ih =>
    simp only [rebuild, deltas]
    rw [add_one _ _ _ ht]
    cases r with
    | nil => simp [rebuild, deltas]
    | cons te' r' =>
      have hd : (te :: te' :: r').dropLast = te :: (te' :: r').dropLast :=
        List.dropLast_cons_of_ne_nil (by simp)
      have hne : te.msg ≠ EOT := h te (by rw [hd]; simp)
      have hn : NoEarlyEOT (te' :: r') := by
        intro x hx; exact h x (by rw [hd]; exact List.mem_cons_of_mem _ hx)
      rw [ih _ _ (by rw [isClosed_concat]; simpa using hne) hn]
      simp

theorem mkTrack_eq (evs : List TE) (h : NoEarlyEOT evs) : mkTrack evs = (deltas 0 evs).close 0 := by
  rw [mkTrack, rebuild_eq [] 0 evs rfl h, List.nil_append]

theorem deltas_msgs (last : Nat) (evs : List TE) :
    (deltas last evs).map (·.msg) = evs.map (·.msg) := by
  induction evs generalizing last with
  | nil => rfl
  | cons te r ih => simp [deltas, ih]

theorem eotOnlyLast_deltas (last : Nat) (evs : List TE) (h : NoEarlyEOT evs) :
    EOTOnlyLast (deltas last evs) := by
  intro e he
  obtain ⟨te, hte, hm⟩ := List.exists_mem_dropLast_of_map_eq (deltas_msgs last evs) he
  exact hm ▸ h te hte

theorem noEarly_bucket (t : Track) (sel : Nat × Msg → Bool) (h : EOTOnlyLast t) : NoEarlyEOT (bucket t sel) := by
  intro te hte
  obtain ⟨e, he, hm⟩ := List.exists_mem_dropLast_of_map_eq (absList_msgs 0 t) (List.filter_sublist.dropLast.subset hte)
  exact hm ▸ h e he

/-- beside `GapsP`: bounded gaps do not survive `filter`, a global bound `hi` does -/
def Within : Nat → Nat → List TE → Prop
  | _, _, [] => True
  | lo, hi, te :: r => lo ≤ te.abs ∧ te.abs ≤ hi ∧ Within te.abs hi r

theorem Within.mono {lo lo' hi : Nat} {evs : List TE} (h : Within lo hi evs) (hl : lo' ≤ lo) :
    Within lo' hi evs := by
  cases evs with
  | nil => trivial
  | cons te r => exact ⟨Nat.le_trans hl h.1, h.2.1, h.2.2⟩

theorem Within.filter {lo hi : Nat} {evs : List TE} (p : TE → Bool) (h : Within lo hi evs) :
    Within lo hi (evs.filter p) := by
  induction evs generalizing lo with
  | nil => trivial
  | cons te r ih =>
    rw [List.filter_cons]
    split
    · exact ⟨h.1, h.2.1, ih h.2.2⟩
    · exact ih (h.2.2.mono h.1)

theorem totalTicks_cons (e : Event) (r : Track) : totalTicks (e :: r) = e.delta + totalTicks r := by
  simp [totalTicks]

theorem totalTicks_append (t u : Track) : totalTicks (t ++ u) = totalTicks t + totalTicks u := by
  simp [totalTicks]

theorem within_absList (a : Nat) (t : Track) : Within a (a + totalTicks t) (absList a t) := by
  induction t generalizing a with
  | nil => trivial
  | cons e r ih =>
    refine ⟨Nat.le_add_right _ _, by show a + e.delta ≤ _; rw [totalTicks_cons]; omega, ?_⟩
    have := ih (a + e.delta)
    rw [totalTicks_cons]
    simpa [Nat.add_assoc] using this

theorem u32sub_of_le (a last : Nat) (h1 : last ≤ a) (h2 : a - last < 4294967296) :
    u32sub a last = a - last := by
  have h : ((a - last : Nat) : Int) < 4294967296 := Int.ofNat_lt.2 h2
  rw [u32sub, ← Int.ofNat_sub h1, Int.emod_eq_of_lt (Int.natCast_nonneg _) h, Int.toNat_natCast]

theorem gapsP_of_within (lo hi : Nat) (evs : List TE) (h : Within lo hi evs) (hb : hi < lo + 4294967296) :
    GapsP lo (evs.map TE.pair) := by
  induction evs generalizing lo with
  | nil => trivial
  | cons te r ih =>
    obtain ⟨h1, h2, h3⟩ := h
    have hstep : te.abs - lo < 4294967296 := by omega
    exact ⟨h1, hstep, ih te.abs h3 (by omega)⟩

/-- re-delta, then running sums: the absolute ticks are back, as long as every step fits `uint32`. `GapsP` is stated
    on the pairs a consumer sees, the form in which the domain `Dom` carries it. -/
theorem timedFrom_deltas_gaps (lo : Nat) (evs : List TE) (h : GapsP lo (evs.map TE.pair)) :
    timedFrom lo (deltas lo evs) = evs.map TE.pair := by
  induction evs generalizing lo with
  | nil => rfl
  | cons te r ih =>
    obtain ⟨h1, h2, h3⟩ : lo ≤ te.abs ∧ te.abs - lo < 4294967296 ∧ GapsP te.abs (r.map TE.pair) := h
    simp only [deltas, timedFrom, List.map_cons, TE.pair]
    rw [u32sub_of_le _ _ h1 h2, Nat.add_sub_cancel' h1, ih te.abs h3]

theorem timedFrom_deltas (lo hi : Nat) (evs : List TE) (h : Within lo hi evs)
    (hb : hi < lo + 4294967296) :
    timedFrom lo (deltas lo evs) = evs.map TE.pair :=
  timedFrom_deltas_gaps lo evs (gapsP_of_within lo hi evs h hb)

theorem timed_deltas_bucket (t : Track) (sel : Nat × Msg → Bool) (hg : GapsP 0 ((timed t).filter sel)) :
    timed (deltas 0 (bucket t sel)) = (timed t).filter sel := by
  rw [← bucket_pairs] at hg ⊢
  exact timedFrom_deltas_gaps 0 _ hg

theorem timedFrom_append (a : Nat) (t u : Track) :
    timedFrom a (t ++ u) = timedFrom a t ++ timedFrom (a + totalTicks t) u := by
  induction t generalizing a with
  | nil => simp [timedFrom, totalTicks]
  | cons e r ih => simp [timedFrom, ih, totalTicks_cons, Nat.add_assoc]

theorem payload_close (t : Track) (δ : Nat) : payload (t.close δ) = payload t := by
  unfold Track.close
  split
  · rfl
  · simp [payload, timed, timedFrom_append, timedFrom, List.filter_append]

theorem closedOnce_close (t : Track) (δ : Nat) (h : EOTOnlyLast t) : ClosedOnce (t.close δ) := by
  unfold Track.close
  rcases List.eq_nil_or_concat t with rfl | ⟨l, z, rfl⟩
  · exact ⟨[], δ, by simp [Track.isClosed], by simp⟩
  · rw [List.concat_eq_append] at h ⊢
    have hl : ∀ e ∈ l, e.msg ≠ EOT := by
      intro e he; exact h e (by rw [List.dropLast_concat]; exact he)
    rw [isClosed_concat]
    by_cases hz : (z.msg == EOT) = true
    · rw [if_pos hz]
      refine ⟨l, z.delta, ?_, hl⟩
      have : z = ⟨z.delta, EOT⟩ := by
        cases z; simp at hz; simp [hz]
      rw [← this]
    · rw [if_neg hz]
      refine ⟨l ++ [z], δ, rfl, ?_⟩
      intro e he
      rcases List.mem_append.1 he with he | he
      · exact hl e he
      · simp at he; subst he; simpa using hz

theorem closedOnce_mkTrack (evs : List TE) (hn : NoEarlyEOT evs) : ClosedOnce (mkTrack evs) := by
  rw [mkTrack_eq evs hn]
  exact closedOnce_close _ _ (eotOnlyLast_deltas 0 evs hn)

theorem payload_bucket (t : Track) (sel : Nat × Msg → Bool) (hg : GapsP 0 ((timed t).filter sel))
    (he : EOTOnlyLast t) : payload (mkTrack (bucket t sel)) = (payload t).filter sel := by
  rw [mkTrack_eq _ (noEarly_bucket t sel he), payload_close, payload, timed_deltas_bucket t sel hg, payload,
    List.filter_filter, List.filter_filter]
  exact List.filter_congr fun x _ => Bool.and_comm _ _

theorem timed_meta_closed (t : Track) (hg : GapsP 0 ((timed t).filter offChan)) (he : EOTOnlyLast t)
    (hc : t.isClosed = true) :
    (timed (mkTrack (bucket t offChan))).getLast? = some (totalTicks t, EOT) := by
  -- the source ends with its end-of-track
  obtain ⟨init, e, rfl, hmsg⟩ : ∃ init e, t = init ++ [e] ∧ e.msg = EOT := by
    rcases List.eq_nil_or_concat t with rfl | ⟨init, e, rfl⟩
    · cases hc
    · rw [List.concat_eq_append, isClosed_concat] at hc
      exact ⟨init, e, List.concat_eq_append, by simpa using hc⟩
  -- which, not a channel message, is the last event of the first result track before `Close`
  have hlast : (timed (deltas 0 (bucket (init ++ [e]) offChan))).getLast? = some (totalTicks (init ++ [e]), EOT) := by
    rw [timed_deltas_bucket _ _ hg, timed, timedFrom_append]
    simp [timedFrom, List.filter_append, offChan, hmsg, getChannel_EOT, totalTicks]
  -- so that track is closed already, and `Close` leaves it as it is
  have hclosed : (deltas 0 (bucket (init ++ [e]) offChan)).isClosed = true := by
    have := congrArg (Option.map (·.2)) hlast
    rw [← List.getLast?_map, timed, timedFrom_msgs, List.getLast?_map] at this
    cases hl : (deltas 0 (bucket (init ++ [e]) offChan)).getLast? with
    | none => rw [hl] at this; cases this
    | some x => rw [hl] at this; simp at this; simp [Track.isClosed, hl, this]
  rw [mkTrack_eq _ (noEarly_bucket _ _ he), Track.close, if_pos hclosed]
  exact hlast

theorem chanLoop_eq (dest : File) (ls : List (List TE)) (h : dest.format = 1) :
    chanLoop dest ls =
      { dest with tracks := dest.tracks ++ (ls.filter (fun l => decide (l.length > 0))).map mkTrack } := by
  induction ls generalizing dest with
  | nil => simp [chanLoop]
  | cons l r ih =>
    simp only [chanLoop]
    split
    · rename_i hl
      rw [ih]
      · simp [File.addTrack, h, hl]
      · simp [File.addTrack, h]
    · rename_i hl
      rw [ih _ h]
      simp [hl]

theorem filter_absList_nonempty (q : Msg → Bool) (a : Nat) (t : Track) :
    decide (((absList a t).filter (fun te => q te.msg)).length > 0) = t.any (fun e => q e.msg) := by
  induction t generalizing a with
  | nil => simp [absList]
  | cons e r ih =>
    simp only [absList, List.filter_cons, List.any_cons]
    cases hq : q e.msg with
    | true => simp
    | false => simpa using ih (a + e.delta)

theorem convert_shape (f : File) (t : Track) (h : Dom f t) :
    convert f =
      .ok ⟨1, f.tf, mkTrack (bucket t offChan) :: (channelsOf t).map (fun c => mkTrack (bucket t (onChan c)))⟩ := by
  have ht := h.ticks63
  -- of the sixteen channel buckets the loop keeps those of the channels that occur
  have hfil : ((List.range 16).map fun c => bucket t (onChan c)).filter (fun l => decide (l.length > 0))
      = (channelsOf t).map fun c => bucket t (onChan c) := by
    rw [List.filter_map]
    exact congrArg _ (List.filter_congr fun c _ => filter_absList_nonempty (fun m => getChannel m == some c) 0 t)
  rw [convert, if_neg h.fmt, h.single]
  simp only
  rw [if_neg (by omega), splitLoop_empty_meta, splitLoop_empty_chans, chanLoop_eq _ _ rfl, hfil, List.map_map]
  rfl

/-- every result track is `mkTrack` of a bucket whose gaps the domain bounds -/
theorem convert_tracks (f : File) (t : Track) (h : Dom f t) :
    ∃ g, convert f = .ok g ∧
      ∀ tr ∈ g.tracks, ∃ sel, tr = mkTrack (bucket t sel) ∧ GapsP 0 ((timed t).filter sel) := by
  refine ⟨_, convert_shape f t h, fun tr htr => ?_⟩
  rcases List.mem_cons.1 htr with rfl | htr
  · exact ⟨offChan, rfl, h.gapsMeta⟩
  · obtain ⟨c, _, rfl⟩ := List.mem_map.1 htr
    exact ⟨onChan c, rfl, h.gapsChan c⟩

theorem payload_partition (t : Track) :
    (payload t).Perm ((payload t).filter offChan ++
      (channelsOf t).flatMap (fun c => (payload t).filter (onChan c))) := by
  -- the classes of `getChannel`: `none`, and `some c` for the channels that occur
  have hnd : (none :: (channelsOf t).map some).Nodup :=
    List.nodup_cons.2 ⟨by simp, (List.nodup_range.sublist List.filter_sublist).map some fun a b h => by simpa using h⟩
  -- no event is left out: its message is the message of an event of `t`
  have hall : ∀ p ∈ payload t, getChannel p.2 ∈ none :: (channelsOf t).map some := by
    intro p hp
    cases hc : getChannel p.2 with
    | none => simp
    | some c =>
      obtain ⟨e, he, hm⟩ := (mem_timed t p.2).1 ⟨p.1, (List.mem_filter.1 hp).1⟩
      have : c ∈ channelsOf t := (mem_channelsOf t c).2 ⟨e, he, (getChannel_some_iff _ _).1 (hm ▸ hc)⟩
      simp [this]
  have h := List.partition_perm (fun p : Nat × Msg => getChannel p.2) _ hnd (payload t)
  rwa [List.filter_eq_self.2 fun p hp => decide_eq_true (hall p hp), List.flatMap_cons, List.flatMap_map] at h

theorem gaps_of_total (t : Track) (sel : Nat × Msg → Bool) (ht : totalTicks t < 4294967296) :
    GapsP 0 ((timed t).filter sel) := by
  have hw := (within_absList 0 t).filter (sel ∘ TE.pair)
  rw [Nat.zero_add] at hw
  rw [← bucket_pairs]
  exact gapsP_of_within 0 _ _ hw (by omega)

/-- a source shorter than `2^32` ticks is in the domain, whatever its events -/
theorem Dom.ofTotal {f : File} {t : Track} (hs : f.tracks = [t]) (hf : f.format ≠ 1)
    (ht : totalTicks t < 4294967296) (he : EOTOnlyLast t) : Dom f t :=
  ⟨hs, hf, by omega, gaps_of_total t _ ht, fun c => gaps_of_total t _ ht, he⟩

theorem filter_onChan_ge16 (l : List (Nat × Msg)) (c : Nat) (h : 16 ≤ c) : l.filter (onChan c) = [] := by
  apply List.filter_eq_nil_iff.2
  intro p _ hp
  have : getChannel p.2 = some c := by simpa [onChan] using hp
  have := getChannel_lt _ _ this
  omega

/-- the channel part of the domain is a finite condition -/
theorem gapsChan_of_first16 (t : Track) (h : ∀ c ∈ List.range 16, GapsP 0 ((timed t).filter (onChan c))) :
    ∀ c, GapsP 0 ((timed t).filter (onChan c)) := by
  intro c
  by_cases hc : c < 16
  · exact h c (List.mem_range.2 hc)
  · rw [filter_onChan_ge16 _ _ (by omega)]; trivial

end Midi.Convert
