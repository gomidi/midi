import Props.C03_Code
/-!
# C03 (and C01), tie to the source: `utils.VlqDecode` as translated from `internal/utils/utils.go` is the model's
`Vlq.decode` on every byte string shorter than the loop fuel — the nested loop (both conditions index the slice), the `uint32`
arithmetic, and the index-out-of-range panic when the last byte carries a continuation bit. With `C03_Code.code_VlqEncode`:
`VlqDecode(VlqEncode(n)) = n` for every `uint32`, on the translated text of both functions.

The loop nest has two places where it can be resumed, the head of the outer loop (`runOuter`) and the head of the inner one
(`runInner`); the five ways of getting from one to the next (`runOuter_end`, `runOuter_byte`, `runInner_last`,
`runInner_cont` with a next byte or without) are the cases of `Vlq.decodeGo` (no byte left, with or without a quantity under
way; a byte with or without continuation bit, `Vlq.decodeGo_cons`), so one induction on the bytes still to be read
(`runInner_eq`) identifies the two.
-/
namespace Midi.C03
open Midi Midi.Go

theorem and128_fin : ∀ x : Fin 256, ((x.val &&& 128) = 0) = (x.val < 128) := by decide +kernel
theorem and128 (b : Nat) (h : b < 256) : ((b &&& 128) = 0) = (b < 128) := and128_fin ⟨b, h⟩
theorem and127 (b : Nat) : (b &&& 127) = b % 128 := Nat.and_two_pow_sub_one_eq_mod b 7

theorem loopF_zero {σ : Type} (f : σ → Except String (ForInStep σ)) (s : σ) : Go.loopF f 0 s = Except.ok s := by unfold Go.loopF; simp only [pure, Except.pure]

/-- what the model's `none` (the last byte carries a continuation bit) is in the translated code -/
def expect (l : List Nat) : Except String Nat :=
  match Vlq.decode l with
  | some v => .ok v
  | none => .error "index out of range"

/-- `expect` on any outcome of the model -/
def orPanic : Option Nat → Except String Nat
  | some v => .ok v
  | none => .error "index out of range"

/-- body of the inner loop, state `(i, n)` -/
def decInner (source : List Nat) (s : Int × Nat) : Except String (ForInStep (Int × Nat)) := do
  let b ← Go.idx source s.1
  if ¬ b &&& 128 ≠ 0 then pure (ForInStep.done (s.1, s.2))
  else do
    let b' ← Go.idx source (Go.wrapS 64 (s.1 + 1))
    pure (ForInStep.yield (Go.wrapS 64 (s.1 + 1), (s.2 * 128 % 4294967296 + (b' &&& 127)) % 4294967296))

/-- what the outer body does with the inner loop's result `(i, n)`: the new `(num, i)` -/
def decAfter (source : List Nat) (num : Nat) (r : Int × Nat) : Except String (Nat × Int) := do
  let c ← Go.idx source r.1
  if c &&& 128 ≠ 0 then throw "go2lean: loop fuel exhausted"
  else pure ((num + r.2) % 4294967296, Go.wrapS 64 (r.1 + 1))

/-- body of the outer loop, state `(num, i)` -/
def decOuter (source : List Nat) (s : Nat × Int) : Except String (ForInStep (Nat × Int)) :=
  if ¬ s.2 < (source.length : Int) then pure (ForInStep.done (s.1, s.2))
  else (do
    let b ← Go.idx source s.2
    let r ← Go.loopF (decInner source) Go.loopFuel (s.2, b &&& 127)
    decAfter source s.1 r) >>= fun st => pure (ForInStep.yield st)

/-- the loop nest resumed at the head of the outer loop, `fo` rounds left -/
def runOuter (source : List Nat) (fo : Nat) (s : Nat × Int) : Except String Nat := do
  let s ← Go.loopF (decOuter source) fo s
  if s.2 < (source.length : Int) then throw "go2lean: loop fuel exhausted" else pure s.1

/-- the loop nest resumed at the head of the inner loop, `fi` inner and `fo` outer rounds left -/
def runInner (source : List Nat) (fi fo num : Nat) (s : Int × Nat) : Except String Nat :=
  Go.loopF (decInner source) fi s >>= fun r => decAfter source num r >>= fun st => runOuter source fo st

theorem VlqDecode_eq (source : List Nat) : utils.VlqDecode source = runOuter source Go.loopFuel (0, 0) := by
  unfold utils.VlqDecode runOuter
  simp only [Go.forIn_range_loopF]
  congr 2
  funext s
  unfold decOuter
  split
  · rfl
  · simp only [decAfter, bind_assoc]
    congr 1
    funext b
    congr 1
    funext r
    congr 1
    funext c
    split <;> rfl

section steps
variable {src : List Nat} {k b n num fi fo : Nat}

theorem runOuter_end : runOuter src (fo + 1) (num, (src.length : Nat)) = pure num := by
  have : decOuter src (num, (src.length : Nat)) = pure (.done (num, (src.length : Nat))) := by
    simp [decOuter]
  simp [runOuter, Go.loopF_done fo this]

theorem runOuter_byte (h : src[k]? = some b) :
    runOuter src (fo + 1) (num, (k : Nat)) = runInner src Go.loopFuel fo num ((k : Nat), b % 128) := by
  have hk : k < src.length := (List.getElem?_eq_some_iff.mp h).1
  have : decOuter src (num, (k : Nat)) =
      (Go.loopF (decInner src) Go.loopFuel ((k : Nat), b % 128) >>= decAfter src num) >>= fun st => pure (.yield st) := by
    simp [decOuter, hk, Go.idx_some h, and127]
  simp only [runOuter, runInner, Go.loopF_yield fo _ _ this, bind_assoc]

/-- an index into a string shorter than the fuel is far from where `i + 1` wraps -/
theorem index_no_wrap (hlen : src.length < Go.loopFuel) (h : src[k]? = some b) : k < 2 ^ 62 :=
  Nat.lt_trans (List.getElem?_eq_some_iff.mp h).1 (Nat.lt_trans hlen (by decide))

theorem runInner_last (hlen : src.length < Go.loopFuel) (h : src[k]? = some b) (hb : b < 128) :
    runInner src (fi + 1) fo num ((k : Nat), n) = runOuter src fo ((num + n) % 4294967296, ((k + 1 : Nat) : Int)) := by
  have hk := index_no_wrap hlen h
  have hz : b &&& 128 = 0 := by
    rw [and128 b (by omega)]
    exact hb
  have : decInner src ((k : Nat), n) = pure (.done ((k : Nat), n)) := by
    simp [decInner, Go.idx_some h, hz]
  simp [runInner, Go.loopF_done fi this, decAfter, Go.idx_some h, hz, Go.wrapS64_succ k hk]

theorem runInner_cont (hsrc : ∀ b ∈ src, b < 256) (hlen : src.length < Go.loopFuel) (h : src[k]? = some b)
    (hb : 128 ≤ b) :
    runInner src (fi + 1) fo num ((k : Nat), n) =
      Go.idx src ((k + 1 : Nat) : Int) >>= fun b' =>
        runInner src fi fo num (((k + 1 : Nat) : Int), (n * 128 % 4294967296 + b' % 128) % 4294967296) := by
  have hk := index_no_wrap hlen h
  have hz : ¬ b &&& 128 = 0 := by
    rw [and128 b (hsrc b (List.mem_of_getElem? h))]
    omega
  have : decInner src ((k : Nat), n) = Go.idx src ((k + 1 : Nat) : Int) >>= fun b' =>
      pure (.yield (((k + 1 : Nat) : Int), (n * 128 % 4294967296 + b' % 128) % 4294967296)) := by
    simp [decInner, Go.idx_some h, hz, Go.wrapS64_succ k hk, and127]
  simp only [runInner, Go.loopF_yield fi _ _ this, bind_assoc]

/-- the loop nest, resumed in the inner loop at byte `b` (already added to `n`), computes what `Vlq.decodeGo`
    does after that byte; the fuel left in both loops exceeds the number of bytes left -/
theorem runInner_eq (hsrc : ∀ b ∈ src, b < 256) (hlen : src.length < Go.loopFuel) :
    ∀ (bs pre : List Nat) (b n num fi fo : Nat), src = pre ++ b :: bs → bs.length < fi → bs.length < fo →
      runInner src fi fo num ((pre.length : Nat), n) =
        orPanic (if b ≥ 128 then Vlq.decodeGo num (some n) bs else Vlq.decodeGo ((num + n) % 4294967296) none bs) := by
  intro bs
  induction bs with
  | nil =>
    intro pre b n num fi fo hs hfi hfo
    obtain ⟨fi, rfl⟩ : ∃ g, fi = g + 1 := ⟨fi - 1, by omega⟩
    obtain ⟨fo, rfl⟩ : ∃ g, fo = g + 1 := ⟨fo - 1, by omega⟩
    have hget : src[pre.length]? = some b := by simp [hs]
    by_cases hc : b ≥ 128
    · -- a continuation bit on the last byte: the next read is out of range
      rw [runInner_cont hsrc hlen hget hc, Go.idx_none (by simp [hs]), if_pos hc]
      rfl
    · have hend : ((pre.length + 1 : Nat) : Int) = (src.length : Nat) := by simp [hs]
      rw [runInner_last hlen hget (by omega), hend, runOuter_end, if_neg hc]
      rfl
  | cons b' bs ih =>
    intro pre b n num fi fo hs hfi hfo
    obtain ⟨fi, rfl⟩ : ∃ g, fi = g + 1 := ⟨fi - 1, by omega⟩
    obtain ⟨fo, rfl⟩ : ∃ g, fo = g + 1 := ⟨fo - 1, by omega⟩
    simp only [List.length_cons, Nat.add_lt_add_iff_right] at hfi hfo
    have hget : src[pre.length]? = some b := by simp [hs]
    have hget' : src[pre.length + 1]? = some b' := by simp [hs]
    have hs' : src = (pre ++ [b]) ++ b' :: bs := by simp [hs]
    have hl : (pre.length + 1 : Nat) = (pre ++ [b]).length := by simp
    by_cases hc : b ≥ 128
    · rw [runInner_cont hsrc hlen hget hc, Go.idx_some hget', pure_bind, hl,
        ih _ _ _ _ _ _ hs' hfi (by omega), if_pos hc, Vlq.decodeGo_cons]
      rfl
    · -- the quantity ends at `b`; the outer loop starts the next one with a full inner fuel
      have hfull : bs.length < Go.loopFuel := by
        simp only [hs, List.length_append, List.length_cons] at hlen
        omega
      rw [runInner_last hlen hget (by omega), runOuter_byte hget', hl,
        ih _ _ _ _ _ _ hs' hfull hfo, if_neg hc, Vlq.decodeGo_cons]
      simp only [Option.getD_none, Nat.zero_mul, Nat.zero_mod, Nat.zero_add,
        Nat.mod_eq_of_lt (show b' % 128 < 4294967296 by omega)]

end steps

/-- `utils.VlqDecode` is the model's `Vlq.decode` on every string shorter than the loop fuel: each loop needs one round
    per byte it passes and one more to break -/
theorem code_VlqDecode_of_lt_fuel (l : List Nat) (hl : l.length < Go.loopFuel) (hb : ∀ b ∈ l, b < 256) :
    utils.VlqDecode l = expect l := by
  rw [VlqDecode_eq]
  cases l with
  | nil => exact runOuter_end (src := [])
  | cons b bs =>
    have h0 : (b :: bs)[0]? = some b := rfl
    have hf : bs.length < 1023 := by
      simp only [List.length_cons, Go.loopFuel] at hl
      omega
    refine (runOuter_byte (fo := 1023) h0).trans ?_
    refine (runInner_eq hb hl bs [] b _ _ _ _ rfl (Nat.lt_trans hf (by decide)) hf).trans ?_
    simp only [expect, Vlq.decode, Vlq.decodeGo_cons, Option.getD_none, Nat.zero_mul, Nat.zero_mod, Nat.zero_add,
      Nat.mod_eq_of_lt (show b % 128 < 4294967296 by omega)]
    rfl

/-- **`utils.VlqDecode` as it stands in the source is the model's `Vlq.decode`** on every string of up to five bytes (what a
    `uint32` quantity occupies; several quantities in one string are summed, as the Go code does): the same value, and
    an index-out-of-range panic exactly where the model says `none` (the last byte carries a continuation bit).
    Both loops end on their own within the fuel. -/
theorem code_VlqDecode (l : List Nat) (hl : l.length ≤ 5) (hb : ∀ b ∈ l, b < 256) :
    utils.VlqDecode l = expect l :=
  code_VlqDecode_of_lt_fuel l (Nat.lt_of_le_of_lt hl (by decide)) hb

example : utils.VlqDecode [0x81, 0x00] = .ok 128 := by
  rw [code_VlqDecode _ (by decide) (by decide)]; rfl
example : utils.VlqDecode [0x81, 0x80] = .error "index out of range" := by
  rw [code_VlqDecode _ (by decide) (by decide)]; rfl

theorem decode_encode (n : Nat) (hn : n < 4294967296) : Vlq.decode (Vlq.encode n) = some n := by
  have := Vlq.read_encode n hn []
  rw [List.append_nil] at this
  rw [Vlq.decode, Vlq.decodeGo_of_readAux 0 _ 0 _ none n [] rfl this, Nat.zero_add, Nat.mod_eq_of_lt hn]
  rfl

/-- **decode ∘ encode on the translated source**: for every `uint32`, `utils.VlqDecode(utils.VlqEncode(n))` — both
    functions as they stand in `internal/utils/utils.go` — runs without a panic, within the loop fuel, and returns `n`. -/
theorem code_VlqDecode_VlqEncode (n : Nat) (hn : n < 4294967296) :
    (utils.VlqEncode n >>= utils.VlqDecode) = .ok n := by
  rw [code_VlqEncode n hn]
  show utils.VlqDecode (Vlq.encode n) = .ok n
  rw [code_VlqDecode_of_lt_fuel _ (Nat.lt_of_le_of_lt (Vlq.encode_length_le n) (by decide)) (Vlq.encode_lt_256 n hn),
    expect, decode_encode n hn]

example : (utils.VlqEncode 0x0FFFFFFF >>= utils.VlqDecode) = .ok 0x0FFFFFFF := code_VlqDecode_VlqEncode _ (by decide)
end Midi.C03
