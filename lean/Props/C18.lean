import Proofs.Sysex
/-!
# C18 — checksummed and fixed-layout sysex helpers parse what they build

Model: `MidiModel/Sysex.lean` (`build`/`checksum`/`parse` = `sysex.Manufacturer.SysEx/Checksum`, `sysex.Parse`;
`GoTo.build/parse`, `Message.build/parse` = `mmc.GoTo`, `mmc.Message`; `wrap` = `midi.SysEx`).
Bytes are `Nat`s; no Roland-style theorem needs a range hypothesis on a field of the value (`roland_corruption`
asks only the changed byte and its replacement to be 7-bit), and none bounds the payload length: the `int32` sum
of `Checksum` is modelled with its wrap-around and Go's truncated `%`, and the checksum statements hold through
the wrap.

Domain guards (all probed on the code): a data-set message needs at least one payload byte (`Parse`
rejects everything shorter than 11 bytes, so the 10-byte message built from an empty payload does not
parse); `Parse` returns the zero value in the field the message kind does not carry (`norm`);
`Message.SysEx` writes neither `IsResponse` nor `Data` and maps the device ids 0 and 128..255 to 127, and
`Message.Parse` reads a parameter list for commands from 0x40 on — hence device ids 1..127 and
single-byte commands below 0x40.
-/
namespace Midi.Sysex

/-- the device id `Message.SysEx` writes -/
def Message.wireDev (m : Message) : Nat := if m.dev = 0 ∨ m.dev > 127 then 127 else m.dev

end Midi.Sysex

namespace Midi.C18
open Midi Midi.Sysex

/-- the value carries nothing in the field its kind does not transmit -/
def Canonical (s : Manufacturer) : Prop :=
  if s.req then s.data = [] else (s.n0 = 0 ∧ s.n1 = 0 ∧ s.n2 = 0)

/-- data request, or data set with a non-empty payload -/
def Sendable (s : Manufacturer) : Prop := s.req = true ∨ s.data ≠ []

/-- Parsing the bytes built from a Roland-style value (data request with any size field, data set with
    any payload of at least one byte; any ids, any address) returns the value with the untransmitted field zeroed. -/
theorem roland_parse_build_norm (s : Manufacturer) (hv : Sendable s) :
    parse (build s) = .ok s.norm := by
  rw [build_window, parse_frame s hv, if_neg (not_not_intro rfl), if_neg (not_not_intro rfl)]

/-- Parsing the bytes built from a Roland-style value returns that value, when it carries nothing in the field its kind
    does not transmit. -/
theorem roland_parse_build (s : Manufacturer) (hv : Sendable s) (hc : Canonical s) :
    parse (build s) = .ok s := by
  have hn : s.norm = s := by
    obtain ⟨manu, dev, model, req, a0, a1, a2, data, n0, n1, n2⟩ := s
    cases req <;> simp_all [Canonical, Manufacturer.norm]
  rw [roland_parse_build_norm s hv, hn]

/-- Layout of the built message: `midi.SysEx` framing around ids, kind byte, the summed bytes (address,
    then payload or request size) and the checksum. -/
theorem roland_layout (s : Manufacturer) :
    build s = wrap ([s.manu, s.dev, s.model, (if s.req then 0x11 else 0x12)] ++ summed s ++ [checksum s]) := by
  rw [build_window]
  simp [wrap]

/-- Address, payload (or request size) and checksum — the bytes of the built message from offset 5 up to
    the end marker — sum to zero modulo 128, and the checksum is a byte. For every payload length. -/
theorem roland_checksum_zero (s : Manufacturer) :
    (((build s).drop 5).dropLast).sum % 128 = 0 ∧
    ((build s).drop 5).dropLast = summed s ++ [checksum s] ∧ checksum s < 256 := by
  have hsp := cksumOf_spec (summed s)
  have hl : ((build s).drop 5).dropLast = summed s ++ [checksum s] := by
    rw [build_window]
    exact List.dropLast_concat
  refine ⟨?_, hl, hsp.2⟩
  rw [hl, List.sum_append]
  simpa [checksum] using hsp.1

/-- The checksum is a 7-bit data byte as long as the `int32` sum does not wrap (sum of address and payload
    below 2^31: every message shorter than 8 MB). -/
theorem roland_checksum_7bit (s : Manufacturer) (h : (summed s).sum < 2147483648) : checksum s < 128 :=
  cksumOf_lt_128 _ h

/-- Changing any single address, payload / request-size or checksum byte (position `i`, 7-bit value `b`)
    of a built message to another 7-bit value `b'` makes `Parse` fail with the checksum error — for every
    value, every payload, every position and every replacement. -/
theorem roland_corruption (s : Manufacturer) (hv : Sendable s) (i b b' : Nat)
    (hi : 5 ≤ i) (hi' : i + 2 ≤ (build s).length) (hb : (build s)[i]? = some b)
    (h7 : b < 128) (h7' : b' < 128) (hne : b' ≠ b) :
    parse ((build s).set i b') = .err .badSum := by
  obtain ⟨sm', c', hset, hlen, hsum⟩ := build_set s i b b' hi hi' hb
  rw [hset]
  refine parse_window_badSum s hv sm' c' 0xF7 hlen ?_
  -- the sum was a multiple of 128 and has moved by `b' - b`
  have := (cksumOf_spec (summed s)).1
  unfold checksum at hsum
  omega

/-- `sysex.Parse` has no index-out-of-range outcome on any byte string. -/
theorem roland_parse_no_panic (bt : Bytes) : parse bt ≠ .panic := parse_no_panic bt

/-- A locate message parses back to the value it was built from — all device ids and time codes, whatever
    the receiver held before. -/
theorem goto_parse_build (g0 v : GoTo) : GoTo.parse g0 v.build = .ok v := Sysex.goto_parse_build g0 v

/-- For any receiver and any device id: a single-byte command below 0x40 parses back to the fields `SysEx` writes
    (device id as written on the wire), `IsResponse` is cleared, `Data` keeps the receiver's old value. -/
theorem mmc_parse_build_any (g0 m : Message) (hc : m.cmd < 0x40) :
    Message.parse g0 m.build = .ok { dev := m.wireDev, cmd := m.cmd, resp := false, data := g0.data } := by
  have hc' : ¬ (m.cmd ≥ 0x40) := by omega
  simp [Message.parse, Message.build, idx, Message.wireDev, hc']

/-- A plain machine-control command (device id 1..127, single-byte command below 0x40) parses back to the
    value it was built from (receiver = zero value, as after `var m mmc.Message`). -/
theorem mmc_parse_build (m : Message) (hd : 1 ≤ m.dev ∧ m.dev ≤ 127) (hc : m.cmd < 0x40)
    (hr : m.resp = false) (hdat : m.data = []) :
    Message.parse { dev := 0, cmd := 0, resp := false, data := [] } m.build = .ok m := by
  rw [mmc_parse_build_any _ m hc]
  cases m
  simp only [Message.wireDev] at *
  subst hr hdat
  rw [if_neg (by omega)]

/-- Neither MMC parser has an index-out-of-range outcome on any byte string. -/
theorem mmc_parse_no_panic (g : Message) (h : GoTo) (bt : Bytes) :
    Message.parse g bt ≠ .panic ∧ GoTo.parse h bt ≠ .panic :=
  ⟨msg_parse_no_panic g bt, goto_parse_no_panic h bt⟩

/-! ## Non-vacuity: concrete instances meet the hypotheses, and the executable model computes them -/

/-- the library's `GMReset` value -/
def gmReset : Manufacturer :=
  { manu := 0x41, dev := 0x10, model := 0x42, req := false, a0 := 0x40, a1 := 0x00, a2 := 0x7F,
    data := [0x00], n0 := 0, n1 := 0, n2 := 0 }

/-- a data request (the example of the comment in `Checksum`: 40 11 00 41 63 has checksum 0B) -/
def sampleReq : Manufacturer :=
  { manu := 0x41, dev := 0x10, model := 0x42, req := true, a0 := 0x40, a1 := 0x11, a2 := 0x00,
    data := [], n0 := 0x00, n1 := 0x00, n2 := 0x24 }

example : Sendable gmReset ∧ Canonical gmReset := by
  constructor
  · right; simp [gmReset]
  · simp [Canonical, gmReset]
example : Sendable sampleReq ∧ Canonical sampleReq := by
  constructor
  · left; rfl
  · simp [Canonical, sampleReq]
example : build gmReset = [0xF0, 0x41, 0x10, 0x42, 0x12, 0x40, 0x00, 0x7F, 0x00, 0x41, 0xF7] := by decide
example : parse (build gmReset) = .ok gmReset := by decide
example : parse (build sampleReq) = .ok sampleReq := by decide
example : checksum { gmReset with a0 := 0x40, a1 := 0x11, a2 := 0x00, data := [0x41, 0x63] } = 0x0B := by decide
-- roland_checksum_zero on a non-trivial sum: 0x40 + 0x00 + 0x7F + 0x00 + 0x41 = 256
example : (((build gmReset).drop 5).dropLast).sum = 256 := by decide
-- roland_checksum_7bit: hypothesis met
example : (summed gmReset).sum < 2147483648 := by decide
-- roland_corruption: the hypotheses are met by payload position 8 (0x00 -> 0x01), by the checksum
-- position 9 (0x41 -> 0x40) and by address position 7 (0x7F -> 0x00) of the GM reset message
example : 5 ≤ 8 ∧ 8 + 2 ≤ (build gmReset).length ∧ (build gmReset)[8]? = some 0 ∧ (0:Nat) < 128 ∧ (1:Nat) < 128 ∧ (1:Nat) ≠ 0 := by
  decide
example : parse ((build gmReset).set 8 1) = .err .badSum := by decide
example : 5 ≤ 9 ∧ 9 + 2 ≤ (build gmReset).length ∧ (build gmReset)[9]? = some 0x41 ∧ (0x41:Nat) < 128 ∧ (0x40:Nat) < 128 := by
  decide
example : parse ((build gmReset).set 9 0x40) = .err .badSum := by decide
example : parse ((build gmReset).set 7 0) = .err .badSum := by decide
-- the 7-bit hypothesis is needed: 0x00 -> 0x80 in the payload keeps the sum modulo 128 and is accepted
example : parse ((build gmReset).set 8 0x80) = .ok { gmReset with data := [0x80] } := by decide
-- the payload guard is needed: the message built from an empty payload is rejected as too short
example : parse (build { gmReset with data := [] }) = .err .tooShort := by decide
example : GoTo.parse ⟨0, 0, 0, 0, 0, 0⟩ (GoTo.build ⟨0x7F, 1, 2, 3, 4, 5⟩) = .ok ⟨0x7F, 1, 2, 3, 4, 5⟩ := by decide
example : (1 ≤ (5:Nat) ∧ (5:Nat) ≤ 127) ∧ (2:Nat) < 0x40 := by decide
example : Message.build ⟨5, 2, false, []⟩ = [0xF0, 0x7F, 5, 0x06, 2, 0xF7] := by decide
example : Message.parse ⟨0, 0, false, []⟩ (Message.build ⟨5, 2, false, []⟩) = .ok ⟨5, 2, false, []⟩ := by decide
-- the guards are needed: device id 0 comes back as 127; a command from 0x40 on does not parse
example : Message.parse ⟨0, 0, false, []⟩ (Message.build ⟨0, 2, false, []⟩) = .ok ⟨127, 2, false, []⟩ := by decide
example : Message.parse ⟨0, 0, false, []⟩ (Message.build ⟨5, 0x44, false, []⟩) = .err ⟨5, 0x44, false, []⟩ := by decide

end Midi.C18
