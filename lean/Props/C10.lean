import Proofs.StreamFault
import Proofs.SmfSink
/-!
# C10 — I/O failures are reported, never swallowed

Write side: `writeToSink` is `SMF.WriteTo` on a destination that accepts `k` bytes in total and then
fails (short write + error). Read side: `Stream.readFrom` over `srcOps` with `fault := some f`: from
absolute offset `f` on every `Read` fails with a non-EOF error (sticky); `hit` records that a `Read`
has failed that way.
-/
namespace Midi.C10
open Midi Midi.Smf Midi.Stream

/-- If the destination fails at any point before the whole file is accepted, `WriteTo` returns an error. -/
theorem write_fault (rsOn : Bool) (s : File) (w : Bytes) (k : Nat) (hw : writeTo rsOn s = .ok w) (hk : k < w.length) :
    ∃ size acc, writeToSink rsOn s (some k) = some (true, size, acc) := by
  obtain ⟨size, h, _⟩ := writeToSink_some hw k
  exact ⟨size, _, by rw [h, decide_eq_true hk]⟩

/-- `WriteTo` returns nil only if every byte was accepted, and then the reported size is the number of
    bytes written and the destination holds exactly the file. -/
theorem write_ok_size (rsOn : Bool) (s : File) (failAt : Option Nat) (size : Nat) (acc : Bytes)
    (h : writeToSink rsOn s failAt = some (false, size, acc)) :
    writeTo rsOn s = .ok acc ∧ size = acc.length := by
  obtain ⟨w, hw⟩ := writeTo_of_sink h
  cases failAt with
  | none =>
    rw [writeToSink_none hw] at h
    simp only [Option.some.injEq, Prod.mk.injEq, true_and] at h
    obtain ⟨rfl, rfl⟩ := h
    exact ⟨hw, rfl⟩
  | some k =>
    obtain ⟨he, rfl, hs⟩ := writeToSink_some_inv hw h
    have hk : w.length ≤ k := by simpa using he.symm
    rw [List.take_of_length_le hk]
    exact ⟨hw, hs hk⟩

/-- what the destination received is always a prefix of the file, never more than it accepted -/
theorem write_accepted_prefix (rsOn : Bool) (s : File) (w : Bytes) (k : Nat) (e : Bool) (size : Nat) (acc : Bytes)
    (hw : writeTo rsOn s = .ok w) (h : writeToSink rsOn s (some k) = some (e, size, acc)) :
    acc.length ≤ k ∧ ∃ t, w = acc ++ t := by
  obtain ⟨_, rfl, _⟩ := writeToSink_some_inv hw h
  exact ⟨List.length_take_le _ _, _, (List.take_append_drop k w).symm⟩

/-- If the source fails with a non-EOF error at any point while the file is read (a `Read` was
    answered with the error), `ReadFrom` returns an error — for every byte string, every
    fragmentation and every fault offset; never a silently shortened file. -/
theorem read_fault (data : Bytes) (cuts : List Nat) (eofWithData : Bool) (f fuel : Nat)
    (hhit : (run srcOps (readFrom fuel) ⟨data, 0, cuts, eofWithData, some f, false⟩).2.hit = true) :
    ∃ e, (run srcOps (readFrom fuel) ⟨data, 0, cuts, eofWithData, some f, false⟩).1 = .ok (.error e) :=
  readFrom_fault f fuel _ ⟨rfl, fun h => by cases h⟩ rfl hhit

/-- the failing source is honest: from offset `f` on every `Read` fails with the error and sets `hit` (that `hit` is set by
    nothing else is `Stream.read_fault`) -/
theorem source_fails_from_offset (f : Nat) (s : Src) (k : Nat) (h : s.fault = some f) (hp : f ≤ s.pos) :
    (s.read k).1 = [] ∧ (s.read k).2.1 = .io ∧ (s.read k).2.2.hit = true := by
  simp [Src.read, h, hp]

/-! Non-vacuity of the hypothesis of `read_fault`: a fault in the middle of a track is hit; one behind everything the
    reader consumes (the three bytes after the end-of-track) is not. -/
def sampleFile : Bytes :=
  [0x4D, 0x54, 0x68, 0x64, 0, 0, 0, 6, 0, 0, 0, 1, 0, 0x60, 0x4D, 0x54, 0x72, 0x6B, 0, 0, 0, 8, 0, 0x90, 60, 64, 0, 0xFF, 0x2F, 0, 1, 2, 3]

example : (run srcOps (readFrom 40) ⟨sampleFile, 0, [], false, some 25, false⟩).2.hit = true := by decide +kernel
example : (run srcOps (readFrom 40) ⟨sampleFile, 0, [], false, some 31, false⟩).2.hit = false := by decide +kernel

end Midi.C10
