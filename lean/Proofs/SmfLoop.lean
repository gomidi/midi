import Proofs.SmfRead
/-!
`ReadTracks` one iteration at a time. `step` is the body of the loop; everything the loop does follows from
what one step does: it consumes input, never runs out of fuel, only ever appends to the tracks, and on a
longer input does the same thing (or, where it had met the end, something that only appends more).
-/
-- `TracksPrefix` lives in `Midi.Gram`, beside the grammar's `meaning`, with which `C05.prefix_safe` compares what is
-- read of a cut file; nothing in it depends on the grammar
namespace Midi.Gram
open Midi.Smf

inductive TracksPrefix : List Track → List Track → Prop
  | nil : TracksPrefix [] []
  | cons {a b : Track} {as bs : List Track} : a <+: b → TracksPrefix as bs → TracksPrefix (a :: as) (b :: bs)

theorem tracksPrefix_refl (M : List Track) : TracksPrefix M M := by
  induction M with
  | nil => exact .nil
  | cons a M ih => exact .cons (List.prefix_refl a) ih

theorem TracksPrefix.trans {A B C : List Track} (h1 : TracksPrefix A B) (h2 : TracksPrefix B C) : TracksPrefix A C := by
  induction h1 generalizing C with
  | nil => exact h2
  | cons hab _ ih => cases h2 with | cons hbc h2 => exact .cons (hab.trans hbc) (ih h2)

theorem tracksPrefix_set (ts : List Track) (i : Nat) (t : Track) (h : ts.getD i [] <+: t) :
    TracksPrefix ts (ts.set i t) := by
  induction ts generalizing i with
  | nil => exact .nil
  | cons a ts ih =>
    cases i with
    | zero => exact .cons (by simpa using h) (tracksPrefix_refl ts)
    | succ i => exact .cons (List.prefix_refl a) (ih i (by simpa using h))

end Midi.Gram

namespace Midi.Smf
open Midi.Gram

def chunkPart (s : RState) (bs : Bytes) : Except RErr (Nat × Bytes) :=
  if s.expectChunk then chunkLoop (bs.length + 1) s.started bs else .ok (s.started, bs)

def endErr (e : RErr) (s : RState) : RErr := if e = .eof ∧ s.missing then .missing else e

def store (s1 : RState) (ev : REv) : RState :=
  let eot := isEOTMsg ev.msg
  { s1 with rs := ev.rs, done := eot && s1.started == s1.numTracks,
            expectChunk := eot && !(s1.started == s1.numTracks),
            tracks := setTrack s1.tracks (s1.started - 1)
              (fun t => if eot then t.close ev.delta else t.add ev.delta [ev.msg]) }

/-- one iteration of `ReadTracks`: the result of the loop if it ends here, else the new state and the rest -/
def step (s : RState) (bs : Bytes) : Except (RState × RErr) (RState × Bytes) :=
  if s.done then .error (s, .finished) else
  match chunkPart s bs with
  | .error e => .error (s, endErr e s)
  | .ok (started, bs1) =>
    let s1 := { s with started := started, expectChunk := false }
    match readEvent s1.rs bs1 with
    | .error e => .error (s1, endErr e s1)
    | .ok ev =>
      -- no such track: `readLoop` returns its `s2`, the flags of `store` and the tracks as they were
      if s1.tracks.length ≤ s1.started - 1 then .error ({ store s1 ev with tracks := s1.tracks }, .other)
      else .ok (store s1 ev, ev.rest)

theorem readLoop_succ (f : Nat) (s : RState) (bs : Bytes) :
    readLoop (f+1) s bs = match step s bs with | .error r => r | .ok (s', r) => readLoop f s' r := by
  conv => lhs; unfold readLoop
  unfold step chunkPart endErr
  by_cases hd : s.done = true
  · simp only [hd, if_true]
  · simp only [hd, Bool.false_eq_true, if_false]
    generalize (if s.expectChunk = true then chunkLoop (bs.length + 1) s.started bs else Except.ok (s.started, bs)) = r1
    cases r1 with
    | error e => rfl
    | ok a =>
      obtain ⟨k, bs1⟩ := a
      dsimp only
      cases readEvent s.rs bs1 with
      | error e => rfl
      | ok ev =>
        dsimp only
        by_cases ht : s.tracks.length ≤ k - 1
        · simp only [ht, if_true]
          rfl
        · simp only [ht, if_false]
          rfl

theorem chunkPart_ok (s : RState) (bs : Bytes) (k : Nat) (r : Bytes) (h : chunkPart s bs = .ok (k, r)) :
    ∃ u, bs = u ++ r ∧ ∀ t, chunkPart s (u ++ r ++ t) = .ok (k, r ++ t) := by
  unfold chunkPart at h ⊢
  by_cases hx : s.expectChunk = true
  · simp only [hx, if_true] at h ⊢
    obtain ⟨rfl, u, rfl, _, hR⟩ := (chunkLoop_spec ..).1 _ _ h
    refine ⟨u, rfl, fun t => ?_⟩
    rw [List.append_assoc]
    exact hR _ _ _ (by simp only [List.length_append]; omega)
  · simp only [hx, Bool.false_eq_true, if_false, Except.ok.injEq, Prod.mk.injEq] at h ⊢
    obtain ⟨rfl, rfl⟩ := h
    exact ⟨[], rfl, fun t => ⟨rfl, rfl⟩⟩

theorem chunkPart_err (s : RState) (bs : Bytes) (e : RErr) (h : chunkPart s bs = .error e) : e = .eof ∨ e = .ueof := by
  unfold chunkPart at h
  by_cases hx : s.expectChunk = true
  · simp only [hx, if_true] at h
    exact (chunkLoop_spec ..).2 _ h (by omega)
  · simp [hx] at h

theorem step_ok_iff (s : RState) (bs : Bytes) (s' : RState) (r : Bytes) :
    step s bs = .ok (s', r) ↔ s.done = false ∧ ∃ k bs1 ev, chunkPart s bs = .ok (k, bs1) ∧ readEvent s.rs bs1 = .ok ev ∧
      k - 1 < s.tracks.length ∧ s' = store { s with started := k, expectChunk := false } ev ∧ r = ev.rest := by
  constructor
  · intro h
    unfold step at h
    split at h
    · cases h
    · rename_i hd
      split at h
      · cases h
      · rename_i k bs1 hc
        dsimp only at h
        split at h
        · cases h
        · rename_i ev he
          split at h
          · cases h
          · cases h
            exact ⟨by simpa using hd, k, bs1, ev, hc, he, by omega, rfl, rfl⟩
  · rintro ⟨hd, k, bs1, ev, hc, he, ht, rfl, rfl⟩
    have : ¬ s.tracks.length ≤ k - 1 := by omega
    simp [step, hd, hc, he, this]

theorem step_error (s : RState) (bs : Bytes) (s' : RState) (e : RErr) (h : step s bs = .error (s', e)) :
    s'.numTracks = s.numTracks ∧ s'.tracks = s.tracks ∧ e ≠ .fuel := by
  have hE : ∀ (e0 : RErr) (s0 : RState), (e0 = .eof ∨ e0 = .ueof ∨ e0 = .other) → endErr e0 s0 ≠ .fuel := by
    intro e0 s0 h0
    unfold endErr
    split
    · simp
    · rcases h0 with rfl | rfl | rfl <;> simp
  unfold step at h
  split at h
  · cases h
    simp
  · split at h
    · rename_i e0 he0
      cases h
      exact ⟨rfl, rfl, hE _ _ ((chunkPart_err _ _ _ he0).imp id Or.inl)⟩
    · dsimp only at h
      split at h
      · rename_i e0 he0
        cases h
        exact ⟨rfl, rfl, hE _ _ ((readEvent_err _ _ _ he0).imp id (Or.imp id And.left))⟩
      · split at h
        · cases h
          simp [store]
        · cases h

theorem store_grows (s1 : RState) (ev : REv) :
    (store s1 ev).numTracks = s1.numTracks ∧ TracksPrefix s1.tracks (store s1 ev).tracks := by
  refine ⟨rfl, tracksPrefix_set _ _ _ ?_⟩
  dsimp only
  split
  · unfold Track.close
    split
    · exact List.prefix_refl _
    · exact List.prefix_append _ _
  · unfold Track.add
    split
    · exact List.prefix_refl _
    · exact List.prefix_append _ _

theorem step_grows (s : RState) (bs : Bytes) (s' : RState) (r : Bytes) (h : step s bs = .ok (s', r)) :
    s'.numTracks = s.numTracks ∧ TracksPrefix s.tracks s'.tracks ∧ r.length < bs.length := by
  obtain ⟨_, k, bs1, ev, hc, he, _, rfl, rfl⟩ := (step_ok_iff ..).mp h
  obtain ⟨u, rfl, _⟩ := chunkPart_ok _ _ _ _ hc
  have := readEvent_rest_lt _ _ _ he
  exact ⟨rfl, (store_grows { s with started := k, expectChunk := false } ev).2, by simp only [List.length_append]; omega⟩

/-- on a longer input the step does the same, unless it stored the made-up empty message at the very end -/
theorem step_ext (s : RState) (bs : Bytes) (s' : RState) (r : Bytes) (h : step s bs = .ok (s', r)) (t : Bytes) :
    step s (bs ++ t) = .ok (s', r ++ t) ∨ (r = [] ∧ s'.done = false ∧ s'.expectChunk = false) := by
  obtain ⟨hd, k, bs1, ev, hc, he, ht, rfl, rfl⟩ := (step_ok_iff ..).mp h
  obtain ⟨u, rfl, hC⟩ := chunkPart_ok _ _ _ _ hc
  obtain ⟨v, rfl, hR | ⟨hm, hr⟩⟩ := readEvent_ok _ _ _ he
  · left
    refine (step_ok_iff ..).mpr ⟨hd, k, v ++ ev.rest ++ t, ⟨ev.delta, ev.msg, ev.rs, ev.rest ++ t⟩, hC t, ?_, ht, rfl, rfl⟩
    rw [List.append_assoc]
    exact hR _
  · right
    simp [store, hm, hr, isEOTMsg]

theorem step_nil (s : RState) (hd : s.done = false) (hx : s.expectChunk = false) :
    ∃ s', step s [] = .error (s', .ueof) := by
  have he : readEvent s.rs [] = .error .ueof := rfl
  simp [step, hd, chunkPart, hx, he, endErr]

theorem readLoop_grows : ∀ (f : Nat) (s : RState) (bs : Bytes),
    (readLoop f s bs).1.numTracks = s.numTracks ∧ TracksPrefix s.tracks (readLoop f s bs).1.tracks := by
  intro f
  induction f with
  | zero => intro s bs; exact ⟨rfl, tracksPrefix_refl _⟩
  | succ f ih =>
    intro s bs
    rw [readLoop_succ]
    cases h : step s bs with
    | error a =>
      obtain ⟨h1, h2, _⟩ := step_error s bs a.1 a.2 h
      exact ⟨h1, h2 ▸ tracksPrefix_refl _⟩
    | ok a =>
      obtain ⟨h1, h2, _⟩ := step_grows s bs a.1 a.2 h
      obtain ⟨i1, i2⟩ := ih a.1 a.2
      exact ⟨i1.trans h1, h2.trans i2⟩

theorem readLoop_total : ∀ (f : Nat) (s : RState) (bs : Bytes), bs.length < f → (readLoop f s bs).2 ≠ .fuel := by
  intro f
  induction f with
  | zero => intro s bs h; omega
  | succ f ih =>
    intro s bs hf
    rw [readLoop_succ]
    cases h : step s bs with
    | error a => exact (step_error s bs a.1 a.2 h).2.2
    | ok a => exact ih _ _ (by have := (step_grows s bs a.1 a.2 h).2.2; omega)

/-- the loop's result is one `ReadFrom` makes a file of -/
def Accepted (r : RState × RErr) : Prop := r.1.missing = false ∧ (r.2 = .finished ∨ r.2 = .eof)

theorem readLoop_mono (t : Bytes) : ∀ (f f' : Nat) (s : RState) (bs : Bytes), bs.length < f → (bs ++ t).length < f' →
    Accepted (readLoop f s bs) → TracksPrefix (readLoop f s bs).1.tracks (readLoop f' s (bs ++ t)).1.tracks := by
  intro f
  induction f with
  | zero => intro f' s bs h; omega
  | succ f ih =>
    intro f' s bs hf hf' hacc
    rw [readLoop_succ] at hacc ⊢
    cases h : step s bs with
    | error a =>
      rw [(step_error s bs a.1 a.2 h).2.1]
      exact (readLoop_grows _ _ _).2
    | ok a =>
      obtain ⟨s', r⟩ := a
      rw [h] at hacc
      have hr := (step_grows s bs s' r h).2.2
      obtain ⟨g, rfl⟩ : ∃ g, f' = g + 1 := ⟨f' - 1, by omega⟩
      rcases step_ext s bs s' r h t with h2 | ⟨rfl, hd, hx⟩
      · rw [readLoop_succ, h2]
        exact ih g s' r (by omega) (by simp only [List.length_append] at hf' ⊢; omega) hacc
      · -- the made-up message was stored: the next read meets the end of the input with unexpected EOF
        exfalso
        dsimp only at hacc
        cases f with
        | zero => rcases hacc.2 with h3 | h3 <;> cases h3
        | succ f =>
          obtain ⟨s2, h3⟩ := step_nil s' hd hx
          rw [readLoop_succ, h3] at hacc
          rcases hacc.2 with h4 | h4 <;> cases h4

theorem finish_ok_iff (format : Nat) (tf : TimeFormat) (r : RState × RErr) (f : File) :
    finish format tf r = .ok f ↔ Accepted r ∧ f = ⟨format, tf, r.1.tracks⟩ := by
  unfold finish Accepted
  by_cases hm : r.1.missing = true
  · simp [hm]
  · by_cases he : r.2 = .finished ∨ r.2 = .eof
    · simp only [hm, he, Bool.false_eq_true, if_false, if_true, RRes.ok.injEq, true_and]
      exact eq_comm
    · simp [hm, he]

theorem readFrom_total (bs : Bytes) : readFrom bs ≠ .error .fuel := by
  rw [readFrom_header]
  cases h : readHeader bs with
  | error e => simpa using (readHeader_framed bs).ne_fuel h
  | ok a =>
    obtain ⟨⟨format, numTracks, tf⟩, bs5⟩ := a
    have := readLoop_total (bs5.length + 2) (initState numTracks) bs5 (by omega)
    simp only [finish]
    split
    · simp
    · split
      · simp
      · simpa using this

/-- Whatever file the reader makes of an input, of any longer input it makes an error or a file with the same
    format and division whose tracks extend the former, event for event. -/
theorem readFrom_mono (bs t : Bytes) (f : File) (h : readFrom bs = .ok f) :
    match readFrom (bs ++ t) with
    | .ok f' => f'.format = f.format ∧ f'.tf = f.tf ∧ TracksPrefix f.tracks f'.tracks
    | .error _ => True := by
  rw [readFrom_header] at h
  cases hh : readHeader bs with
  | error e =>
    rw [hh] at h
    cases h
  | ok a =>
    obtain ⟨⟨format, numTracks, tf⟩, bs5⟩ := a
    rw [hh] at h
    obtain ⟨hacc, rfl⟩ := (finish_ok_iff ..).mp h
    obtain ⟨u, rfl, hR | hR⟩ := (readHeader_framed bs).ok _ _ hh
    · rw [readFrom_header, List.append_assoc, hR (bs5 ++ t)]
      dsimp only
      cases hf : finish format tf (readLoop ((bs5 ++ t).length + 2) (initState numTracks) (bs5 ++ t)) with
      | error e => trivial
      | ok f' =>
        obtain ⟨_, rfl⟩ := (finish_ok_iff ..).mp hf
        exact ⟨rfl, rfl, readLoop_mono t _ _ _ bs5 (by omega) (by omega) hacc⟩
    · exact hR.1.elim

end Midi.Smf
