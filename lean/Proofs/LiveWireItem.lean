import Proofs.LiveWireStep
import Proofs.LiveWireSpec
/-!
# One wire item through the decoder

`Item.raw` = the raw frames `drivers.Reader` hands over for an item (fixed three-byte frames for channel /
system common messages); `feed_item`: from a state between messages (`Clean`) a legal item yields exactly
`Item.raw` and leaves the decoder between messages with the running status MIDI 1.0 prescribes;
`feed_item_explicit`: for a message that carries its own status byte the same holds from ANY state.
-/
namespace Midi.LiveWire
open Midi.Live

/-- the fixed three-byte frame of `drivers.Reader` for a channel / system common message -/
def pad3 : Bytes → Bytes
  | [a] => [a, 0, 0]
  | [a, b] => [a, b, 0]
  | m => m

def Item.raw (t : Int) : Item → List Frame
  | .chan st _ body => bodyMsgs t body ++ [(pad3 (st :: bodyData body), t + bodyTime body)]
  | .sysc st body => bodyMsgs t body ++ [(pad3 (st :: bodyData body), t + bodyTime body)]
  | it => it.msgs t

theorem feed_chan_body (c : Cfg) (s : St) (st : Nat) (t : Int) (body : Body) (h : WaitC s st none t)
    (h1 : 0x80 ≤ st) (h2 : st ≤ 0xEF) (hlen : body.length = chanLen st) (hb : bodyOk body = true) :
    ∃ s', feed c s (bodyToks body) = (s', bodyMsgs t body ++ [(pad3 (st :: bodyData body), t + bodyTime body)]) ∧
      Clean s' st (t + bodyTime body) := by
  rcases chanLen_cases st with hl | hl
  · obtain ⟨g1, d1, rfl, hg1, hd1⟩ := body_one (hlen.trans hl) hb
    obtain ⟨s1, e1, c1⟩ := step_chan_only c _ st d1 _ (h.adv (tickSum g1)) hl hd1
    refine ⟨s1, ?_, by simpa [bodyTime] using c1⟩
    simp only [bodyToks]
    rw [feed_gap_byte c s g1 d1 [] hg1, e1, feed_nil, h.ts]
    simp [bodyMsgs, bodyData, bodyTime, pad3]
  · obtain ⟨g1, d1, g2, d2, rfl, hg1, hd1, hg2, hd2⟩ := body_two (hlen.trans hl) hb
    obtain ⟨s1, e1, w1⟩ := step_chan_first c _ st d1 _ (h.adv (tickSum g1)) h1 h2 hl hd1
    obtain ⟨s2, e2, c2⟩ := step_chan_second c _ st d1 d2 _ (w1.adv (tickSum g2)) h1 h2 hl hd2
    refine ⟨s2, ?_, by simpa [bodyTime, Int.add_assoc] using c2⟩
    simp only [bodyToks]
    rw [feed_gap_byte c s g1 d1 _ hg1, e1, feed_gap_byte c _ g2 d2 [] hg2, e2, feed_nil, h.ts, w1.ts]
    simp [bodyMsgs, bodyData, bodyTime, pad3, Int.add_assoc]

theorem feed_elided (c : Cfg) (s : St) (st : Nat) (t : Int) (body : Body) (h : Clean s st t) (hst : st ≠ 0)
    (hne : body ≠ []) (hb : bodyOk body = true) :
    feed c s (bodyToks body) = feed c { s with mode := .chan } (bodyToks body) ∧
      WaitC { s with mode := .chan } st none t := by
  match body, hne, hb with
  | (g1, d1) :: r, _, hb =>
    obtain ⟨hg1, hd1, _⟩ := bodyOk_cons hb
    have e := clean_running c _ st d1 _ (h.adv (tickSum g1)) hst hd1
    refine ⟨?_, rfl, h.status, h.typ hst, h.pend hst, h.ts⟩
    simp only [bodyToks]
    rw [feed_gap_byte c s g1 d1 _ hg1, feed_gap_byte c _ g1 d1 _ hg1, e]
    rfl

theorem feed_sx_body (c : Cfg) (hc : c.sysex = true) (body : Body) (rest : List Tok) :
    ∀ (s : St) (data : Bytes) (t0 t : Int), InSx s data t0 t → bodyOk body = true →
      data.length + body.length + 1 < c.bufSize →
      ∃ s', feed c s (bodyToks body ++ rest) = ((feed c s' rest).1, bodyMsgs t body ++ (feed c s' rest).2) ∧
        InSx s' (data ++ bodyData body) t0 (t + bodyTime body) := by
  induction body with
  | nil =>
    intro s data t0 t h _ _
    exact ⟨s, by simp [bodyToks, bodyMsgs], by simpa [bodyData, bodyTime] using h⟩
  | cons p r ih =>
    obtain ⟨g, d⟩ := p
    intro s data t0 t h hb hlen
    obtain ⟨hg, hd, hr⟩ := bodyOk_cons hb
    simp only [List.length_cons] at hlen
    obtain ⟨s1, e1, w1⟩ := step_sx_data c _ data d t0 _ (h.adv (tickSum g)) hc (by omega) hd
    obtain ⟨s', e, w'⟩ := ih s1 (data ++ [d]) t0 _ w1 hr (by simp; omega)
    refine ⟨s', ?_, by simpa [bodyData, bodyTime, Int.add_assoc] using w'⟩
    simp only [bodyToks, List.cons_append, List.append_assoc]
    rw [feed_gap_byte c s g d _ hg, e1, e, h.ts]
    simp [bodyMsgs]

theorem feed_item_explicit (c : Cfg) (hc : c.sysex = true) (s : St) (run : Nat) (it : Item)
    (hex : startsExplicit [it] = true) (hok : it.ok c.bufSize run = true) :
    ∃ s', feed c s it.toks = (s', it.raw s.ts) ∧ Clean s' (it.runAfter run) (s.ts + it.time) := by
  cases it with
  | rt b => simp [startsExplicit] at hex
  | tick d => simp [startsExplicit] at hex
  | chan st e body =>
    simp only [startsExplicit, Bool.not_eq_true'] at hex
    subst hex
    simp only [Item.ok, Bool.and_eq_true, decide_eq_true_eq] at hok
    obtain ⟨⟨⟨⟨h1, h2⟩, _⟩, hlen⟩, hb⟩ := hok
    obtain ⟨s0, e0, w0⟩ := step_chanStatus c s st h1 h2
    obtain ⟨s', e, cl⟩ := feed_chan_body c s0 st _ body w0 h1 h2 hlen hb
    refine ⟨s', ?_, cl⟩
    simp only [Item.toks, Bool.false_eq_true, if_false, List.singleton_append]
    rw [feed_cons, stepTok, e0, e]
    rfl
  | sysc st body =>
    simp only [Item.ok, Bool.and_eq_true, decide_eq_true_eq] at hok
    obtain ⟨hl, hb⟩ := hok
    simp only [Item.toks, Item.raw, Item.runAfter, Item.time]
    rcases syscLen_cases hl with ⟨hst, hn⟩ | ⟨rfl, hn⟩ | ⟨rfl, hn⟩
    · obtain ⟨g1, d1, rfl, hg1, hd1⟩ := body_one hn hb
      obtain ⟨s0, e0, w0⟩ := step_syscStatus c s st (by omega)
      obtain ⟨s1, e1, c1⟩ := step_sysc_only c _ st d1 _ (w0.adv (tickSum g1)) hst hd1
      refine ⟨s1, ?_, by simpa [bodyTime] using c1⟩
      simp only [bodyToks]
      rw [feed_cons, stepTok, e0, feed_gap_byte c _ g1 d1 [] hg1, e1, feed_nil, w0.ts]
      simp [bodyMsgs, bodyData, bodyTime, pad3]
    · obtain ⟨g1, d1, g2, d2, rfl, hg1, hd1, hg2, hd2⟩ := body_two hn hb
      obtain ⟨s0, e0, w0⟩ := step_syscStatus c s 0xF2 (by omega)
      obtain ⟨s1, e1, w1⟩ := step_spp_first c _ d1 _ (w0.adv (tickSum g1)) hd1
      obtain ⟨s2, e2, c2⟩ := step_spp_second c _ d1 d2 _ (w1.adv (tickSum g2)) hd2
      refine ⟨s2, ?_, by simpa [bodyTime, Int.add_assoc] using c2⟩
      simp only [bodyToks]
      rw [feed_cons, stepTok, e0, feed_gap_byte c _ g1 d1 _ hg1, e1, feed_gap_byte c _ g2 d2 [] hg2, e2,
        feed_nil, w0.ts, w1.ts]
      simp [bodyMsgs, bodyData, bodyTime, pad3, Int.add_assoc]
    · obtain rfl : body = [] := List.length_eq_zero_iff.mp hn
      obtain ⟨s0, e0, c0⟩ := step_tune c s
      refine ⟨s0, ?_, by simpa [bodyTime] using c0⟩
      simp only [bodyToks]
      rw [feed_cons, stepTok, e0, feed_nil]
      simp [bodyMsgs, bodyData, bodyTime, pad3]
  | sysex body last =>
    simp only [Item.ok, Bool.and_eq_true, decide_eq_true_eq] at hok
    obtain ⟨⟨hb, hg⟩, hlen⟩ := hok
    obtain ⟨s0, e0, w0⟩ := step_sxStart c s
    obtain ⟨s1, e1, w1⟩ := feed_sx_body c hc body (last ++ [.byte 0xF7]) s0 [] _ _ w0 hb (by simp; omega)
    simp only [List.nil_append] at w1
    have hl2 : (bodyData body).length + 1 < c.bufSize := by simp [bodyData]; omega
    obtain ⟨s2, e2, c2⟩ := step_sx_end c _ (bodyData body) _ _ (w1.adv (tickSum last)) hc hl2
    refine ⟨s2, ?_, by simpa [Item.runAfter, Item.time, Int.add_assoc] using c2⟩
    simp only [Item.toks]
    rw [feed_cons, stepTok, e0, e1, feed_gap_byte c s1 last 0xF7 [] hg, e2, feed_nil, w1.ts]
    simp [Item.raw, Item.msgs]

theorem feed_item (c : Cfg) (hc : c.sysex = true) (s : St) (run : Nat) (t : Int) (it : Item)
    (hs : Clean s run t) (hok : it.ok c.bufSize run = true) :
    ∃ s', feed c s it.toks = (s', it.raw t) ∧ Clean s' (it.runAfter run) (t + it.time) := by
  obtain rfl := hs.ts
  cases it with
  | rt b =>
    simp only [Item.ok, decide_eq_true_eq] at hok
    refine ⟨s, ?_, by simpa [Item.runAfter, Item.time] using hs⟩
    simp only [Item.toks]
    rw [feed_cons, stepTok, step_rt c s b hok, feed_nil]
    rfl
  | tick d =>
    refine ⟨adv s d, ?_, by simpa [Item.runAfter, Item.time] using hs.adv d⟩
    simp only [Item.toks]
    rw [feed_cons, stepTok_tick, feed_nil]
    rfl
  | chan st e body =>
    cases e with
    | false => exact feed_item_explicit c hc s run _ rfl hok
    | true =>
      simp only [Item.ok, Bool.and_eq_true, decide_eq_true_eq, Bool.not_true, Bool.false_or] at hok
      obtain ⟨⟨⟨⟨h1, h2⟩, hrun⟩, hlen⟩, hb⟩ := hok
      subst hrun
      obtain ⟨e, w0⟩ := feed_elided c s run _ body hs (by omega) (body_ne_nil hlen) hb
      obtain ⟨s', e2, cl⟩ := feed_chan_body c _ run _ body w0 h1 h2 hlen hb
      refine ⟨s', ?_, cl⟩
      simp only [Item.toks, if_true, List.nil_append]
      rw [e, e2]
      rfl
  | sysc st body => exact feed_item_explicit c hc s run _ rfl hok
  | sysex body last => exact feed_item_explicit c hc s run _ rfl hok

end Midi.LiveWire
