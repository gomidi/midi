import Proofs.Msg
import Proofs.GoSem
import MidiModel.Generated.MidiGo
/-!
# C08, tie to the source: the classification core of `midi.Message` as translated from the working tree
(`v2/type.go`: `Type.Is`, `getType`, `getChannelType`, `getRealtimeType`, `getSysCommonType`, the two map literals of
`realtime.go` / `syscommon.go`; `v2/message.go`: `Type`, `Is`, `IsPlayable`) equals the model's functions for every
byte string and every type code. `none` in the model = a Go panic (it does not occur).

The model was written after the Go text, test by test in the same order, so most of these are equalities of two
`if` chains that differ in how a condition becomes a `Bool` (`decide (p ∧ q)` against `decide p && decide q`) or in
where `pure` stands.
-/
namespace Midi.C08
open Midi Midi.Msg Midi.Go

theorem code_rtMessages (b : Nat) : midi.rtMessages b = rtMessages b := rfl

theorem code_syscommMessages (b : Nat) : midi.syscommMessages b = syscommMessages b := rfl

theorem code_Type_Is (t c : Int) : midi.Type'.Is t c = typeIs t c := by
  unfold midi.Type'.Is typeIs
  simp only [Bool.decide_and]
  rfl

theorem code_getChannelType (b : Nat) : midi.getChannelType b = getChannelType b := rfl

theorem code_getRealtimeType (b : Nat) : midi.getRealtimeType b = getRealtimeType b := by
  unfold midi.getRealtimeType getRealtimeType
  rw [code_rtMessages]
  cases rtMessages b <;> rfl

theorem code_getSysCommonType (b : Nat) : midi.getSysCommonType b = getSysCommonType b := by
  unfold midi.getSysCommonType getSysCommonType
  rw [code_syscommMessages]
  cases syscommMessages b <;> rfl

/-- the test `len(m) == 0` as translated, on a non-empty message -/
theorem len_cons_ne_zero (b : Nat) (r : Bytes) : ¬ (((b :: r).length : Nat) : Int) = 0 := by
  simp only [List.length_cons]
  omega

theorem code_Type_cons (b : Nat) (r : Bytes) : midi.Message.Type' (b :: r) = .ok (typeOfStatus b) := by
  have hl := len_cons_ne_zero b r
  unfold midi.Message.Type' midi.getType typeOfStatus
  simp only [hl, ↓reduceIte, ↓Go.idx_0_bind, code_getChannelType, code_getRealtimeType, code_getSysCommonType,
    apply_ite Except.ok]
  rfl

theorem code_Type (m : Bytes) : ∃ t, getType m = some t ∧ midi.Message.Type' m = .ok t := by
  cases m with
  | nil => exact ⟨0, rfl, rfl⟩
  | cons b r => exact ⟨_, getType_cons b r, code_Type_cons b r⟩

/-- `Message.Is(t)` is the model's `msgIs`: it never panics -/
theorem code_Is (m : Bytes) (c : Int) : ∃ b, msgIs .midi m c = some b ∧ midi.Message.Is m c = .ok b := by
  obtain ⟨t, h1, h2⟩ := code_Type m
  refine ⟨_, msgIs_of_type (v := .midi) h1 c, ?_⟩
  simp only [midi.Message.Is, ↓Go.bind_eq_of_pure h2, code_Type_Is]
  rfl

theorem code_Is_cons (b : Nat) (r : Bytes) (c : Int) :
    midi.Message.Is (b :: r) c = .ok (typeIs (typeOfStatus b) c) := by
  obtain ⟨x, h1, h2⟩ := code_Is (b :: r) c
  rw [msgIs_cons] at h1
  cases h1
  exact h2

theorem code_Is_nil (c : Int) : midi.Message.Is [] c = .ok (typeIs 0 c) := by
  obtain ⟨x, h1, h2⟩ := code_Is [] c
  rw [msgIs_nil] at h1
  cases h1
  exact h2

theorem code_IsPlayable (m : Bytes) : ∃ p, isPlayable m = some p ∧ midi.Message.IsPlayable m = .ok p := by
  obtain ⟨t, h1, h2⟩ := code_Type m
  refine ⟨if t ≤ 0 then false else decide (t < 70), ?_, ?_⟩
  · simp only [isPlayable, h1, apply_ite some]
  · simp only [midi.Message.IsPlayable, ↓Go.bind_eq_of_pure h2]
    split <;> rfl

/-- `midi.Message.IsOneOf` and `smf.Message.IsOneOf` are this loop over their own `Is`: it answers at the first checker
    that matches -/
theorem oneOf_loop (v : View) (m : Bytes) (is : Int → Except String Bool)
    (h : ∀ c, ∃ b, msgIs v m c = some b ∧ is c = .ok b) (cs : List Int) :
    ∃ b, isOneOf v m cs = some b ∧
      (do
        for checker in cs do
          if (← is checker) = true then
            return true
        return false : Except String Bool) = .ok b := by
  induction cs with
  | nil => exact ⟨false, rfl, rfl⟩
  | cons c r ih =>
    obtain ⟨b, hb, hr⟩ := ih
    obtain ⟨x, hx, hI⟩ := h c
    simp only [List.forIn_cons, isOneOf, hx, ↓Go.bind_eq_of_pure hI] at hr ⊢
    cases x
    · exact ⟨b, hb, by simpa using hr⟩
    · exact ⟨true, rfl, rfl⟩

theorem code_IsOneOf (m : Bytes) (cs : List Int) :
    ∃ b, isOneOf .midi m cs = some b ∧ midi.Message.IsOneOf m cs = .ok b :=
  oneOf_loop .midi m _ (code_Is m) cs

end Midi.C08
