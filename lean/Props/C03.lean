import Proofs.StrictFile
import Proofs.SmfSink
/-!
# C03 — SMF encoding emits structurally valid, deterministic SMF 1.0 files

`Strict.parse` (MidiModel/Strict.lean) is the independent strict parser: header length 6, track count =
number of `MTrk` chunks, exact chunk lengths, canonical VLQs (≤ 4 bytes), running status only directly
after a channel event of the same track, exactly one end-of-track per track as its last event, no
trailing bytes. Domain `StrictDom` (`Proofs/StrictFile.lean`): that of C01 (`StrictDom.dom`) with deltas and payload
lengths up to the format's maximum 0x0FFFFFFF, one of the four SMPTE rates or a metric division, chunks shorter than
2^32 bytes.
Determinism is definitional for the model (`writeTo` is a function); for the code the harness writes
every value twice and compares.
-/
namespace Midi.C03
open Midi Midi.Smf Midi.Strict

/-- The strict parser accepts the bytes written for any value of the domain and recovers exactly the
    written content. -/
theorem strict_of_write (rsOn : Bool) (s : File) (h : StrictDom rsOn s) :
    ∃ w, writeTo rsOn s = .ok w ∧ Strict.parse w = some s.prepared := by
  have hc : ∀ t ∈ s.prepared.tracks, SClosedOK t := forall_prepared fun t ht => (h.tracks t ht).closed
  have henc : ∀ t ∈ s.prepared.tracks, encTrackBody rsOn 0 t = some (trackBody rsOn t) :=
    fun t ht => (hc t ht).closedOK.enc rsOn
  exact ⟨_, writeTo_chunks rsOn s h.count h.nonempty henc,
    parse_enc rsOn s.prepared.format s.tf s.prepared.tracks (prepared_format_le s h.fmt)
      (prepared_format_zero h.nonempty h.count) h.tf (prepared_ne_nil h.nonempty) (by rw [prepared_length]; exact h.count)
      fun t ht => ⟨hc t ht, h.chunkSize t ht _ (henc t ht)⟩⟩

/-- the reported size is the number of bytes emitted, and the sink received exactly the file -/
theorem size_eq (rsOn : Bool) (s : File) (w : Bytes) (h : writeTo rsOn s = .ok w) :
    writeToSink rsOn s none = some (false, w.length, w) := writeToSink_none h

/-! ### Variable-length quantities: for every value the API accepts, not a sample -/

/-- `ReadVarLength` reads back what `VlqEncode` wrote, for every 32-bit value, whatever follows -/
theorem vlq_read_encode (n : Nat) (h : n < 4294967296) (rest : Bytes) :
    Vlq.read (Vlq.encode n ++ rest) = some (n, rest) := Vlq.read_encode n h rest

/-- every legal value (< 2^28) is encoded in the shortest form of at most four bytes: the canonical
    parser of the strict reader accepts it and returns the value -/
theorem vlq_canonical (n : Nat) (h : n < 268435456) (rest : Bytes) :
    Strict.vlq (Vlq.encode n ++ rest) = some (n, rest) := Strict.vlq_encode n h rest

/-- length of the encoding: 1 byte below 2^7, 2 below 2^14, 3 below 2^21, 4 below 2^28 -/
theorem vlq_length (n : Nat) (h : n < 268435456) :
    (Vlq.encode n).length = if n < 128 then 1 else if n < 16384 then 2 else if n < 2097152 then 3 else 4 := by
  split
  · exact Vlq.encode_length n 0 (by omega) (.inl rfl) (by omega)
  · split
    · exact Vlq.encode_length n 1 (by omega) (.inr (by omega)) (by omega)
    · split
      · exact Vlq.encode_length n 2 (by omega) (.inr (by omega)) (by omega)
      · exact Vlq.encode_length n 3 (by omega) (.inr (by omega)) (by omega)

/-! Non-vacuity: a closed track of the strict domain with the largest delta. The executable model on a file outside the
    domain — a message `3C 00` without status byte is written as it stands and parsed as running status (`90 3C 00`):
    accepted, but not the written content — and on the same file with the status byte in place. -/
example : STrackOK [⟨0, [0x90, 60, 64]⟩, ⟨268435455, [0x90, 62, 0]⟩, ⟨5, EOT⟩] := by
  refine ⟨[(0, .chan 0x90 60 (some 64)), (268435455, .chan 0x90 62 (some 0))], ?_, ?_, Or.inr ⟨5, by omega, rfl⟩⟩
  · intro x hx; simp at hx
    rcases hx with rfl | rfl <;> exact ⟨by simp [Ev.Valid, oneData], trivial, by omega⟩
  · intro x hx; simp at hx
    rcases hx with rfl | rfl <;> exact ⟨by omega, by simp [payloadLen]⟩

example : (match writeTo true ⟨0, .smpte 25 40, [[⟨0, [0x90, 60, 64]⟩, ⟨268435455, [60, 0]⟩]]⟩ with
    | .ok w => Strict.parse w == some (File.prepared ⟨0, .smpte 25 40, [[⟨0, [0x90, 60, 64]⟩, ⟨268435455, [60, 0]⟩]]⟩)
    | _ => true) = false := by decide +kernel

example : (match writeTo true ⟨0, .smpte 25 40, [[⟨0, [0x90, 60, 64]⟩, ⟨268435455, [0x90, 62, 0]⟩]]⟩ with
    | .ok w => Strict.parse w == some (File.prepared ⟨0, .smpte 25 40, [[⟨0, [0x90, 60, 64]⟩, ⟨268435455, [0x90, 62, 0]⟩]]⟩)
    | _ => false) = true := by decide +kernel

end Midi.C03
