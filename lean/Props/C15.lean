import Proofs.Meta
import MidiModel.Generated.Facts
/-!
# C15 — meta-event constructors and accessors are mutually inverse

Model: `MidiModel/Meta.lean` (constructors `meta*` = `smf.Meta*`, accessors `getMeta*` = `Message.GetMeta*`
with all out-parameters requested, `none` = the accessor returned `false`). `Meta.Spec` holds what the
theorems compare with and is not derived from the code: the event grammar `FF type length data`, the circle
of fifths spelled from music theory, rounding of a rational. Lengths are bounded by `2^32` only because
`_MetaMessage` converts `len(data)` to `uint32`; there is no other size bound.

Floats do not occur in Lean: the tempo theorems speak about the integer field (microseconds per quarter
note) — the constructor from the point where `uint32(math.Round(60000000/bpm))` is an integer, or for a
rational `bpm = p/q` with exact rounding, the accessor up to the integer it divides 60000000 by. The float
glue (`MetaTempo(bpm float64)`, `GetMetaTempo(*float64)`) is compared with these by the harness
(differential support, see `lib/props/C15.json`).

`Facts.c15*` are regenerated from the working tree on every run (`harness/c15.go`, `tools/extract/keys.go`);
the theorems over them are `decide`d over the complete tables.
-/
namespace Midi.C15
open Midi Midi.Meta

/-! ## Well-formedness: every constructor emits `FF type length data` -/

/-- The generic constructor emits exactly one SMF 1.0 meta event with the given type byte and payload,
    whatever the payload length (the length field is a VLQ of 1..5 bytes). -/
theorem wellformed (t : Nat) (d : Bytes) (h : d.length < 4294967296) :
    Spec.parse (metaMessage t d) = some (t, d) := by
  rw [metaMessage_eq, Nat.mod_eq_of_lt h]
  simp [Spec.parse, Vlq.read_encode d.length h d]

example : (List.replicate 20000 0x80).length < 4294967296 := by rw [List.length_replicate]; omega

/-- Every constructor is the generic one applied to the SMF 1.0 type byte of its event and a payload of the
    size SMF 1.0 prescribes (texts 01–09, channel 20, port 21, tempo 51 with 3 bytes, SMPTE 54 with 5,
    time signature 58 with 4, key 59 with 2, sequencer data 7F, sequence number 00 with 2). -/
theorem constructors_wellformed :
    TextKind.all.map (fun k => (k.name, k.byte)) =
      [("lyric", 5), ("copyright", 2), ("cuepoint", 7), ("device", 9), ("instrument", 4), ("marker", 6),
       ("program", 8), ("text", 1), ("trackname", 3)] ∧
    (∀ k s, metaText k s = metaMessage k.byte s) ∧
    (∀ d, metaSequencerData d = metaMessage 0x7F d) ∧
    (∀ c, metaChannel c = metaMessage 0x20 [c]) ∧
    (∀ p, metaPort p = metaMessage 0x21 [p]) ∧
    (∀ n, metaSequenceNo n = metaMessage 0x00 [n / 256 % 256, n % 256]) ∧
    (∀ a b c d e, metaSMPTE a b c d e = metaMessage 0x54 [a, b, c, d, e]) ∧
    (∀ n d c q, ∃ x y z, metaTimeSig n d c q = metaMessage 0x58 [n, x, y, z]) ∧
    (∀ k maj n fl, ∃ x y, metaKey k maj n fl = metaMessage 0x59 [x, y]) ∧
    (∀ u, 1 ≤ u → u ≤ 0xFFFFFF → metaTempoMicros u = metaMessage 0x51 [u / 65536, u / 256 % 256, u % 256]) := by
  refine ⟨by decide, fun _ _ => rfl, fun _ => rfl, fun _ => rfl, fun _ => rfl, fun _ => rfl,
    fun _ _ _ _ _ => rfl, fun _ _ _ _ => ⟨_, _, _, rfl⟩, fun _ _ _ _ => ⟨_, _, rfl⟩, ?_⟩
  intro u h1 h2
  rw [metaTempoMicros_bytes u h1 h2]
  simp [metaMessage, Vlq.encode_small]

/-! ## Texts and sequencer data: every length -/

/-- Each of the nine text constructors is inverted by its accessor for every text of every length
    (`< 2^32`, the range of the `uint32` length conversion). -/
theorem text_roundtrip (k : TextKind) (s : Bytes) (h : s.length < 4294967296) :
    getMetaText k (metaText k s) = some s := by
  obtain ⟨hr, hl⟩ := payload_metaMessage k.byte s h
  unfold getMetaText metaText
  rw [isType_metaMessage, TextKind.type_byte, TextKind.type_ne, hr]
  have : ¬ (metaMessage k.byte s).length < 3 := by omega
  simp [this]

/-- … and by no other text accessor. -/
theorem text_exclusive (k k' : TextKind) (s : Bytes) (hk : k' ≠ k) :
    getMetaText k' (metaText k s) = none := by
  unfold getMetaText metaText
  rw [isType_metaMessage, TextKind.type_byte]
  have : (k.type == k'.type) = false := by
    apply beq_false_of_ne; intro h; exact hk (TextKind.type_inj _ _ h).symm
  simp [this]

example : getMetaText .lyric (metaText .lyric (List.replicate 300 0xFF)) = some (List.replicate 300 0xFF) :=
  text_roundtrip _ _ (by rw [List.length_replicate]; omega)

/-- Sequencer-specific data of every non-empty payload of any length comes back unchanged — in particular
    with 128 bytes and more, where the length field has two or more bytes (DESIGN §7-14). -/
theorem seqdata_roundtrip (d : Bytes) (hne : d ≠ []) (h : d.length < 4294967296) :
    getMetaSeqData (metaSequencerData d) = some d := by
  obtain ⟨hr, hl⟩ := payload_metaMessage 0x7F d h
  have hd := List.length_pos_iff.mpr hne
  unfold getMetaSeqData metaSequencerData
  rw [isType_metaMessage, hr]
  have : ¬ (metaMessage 0x7F d).length < 4 := by omega
  simp [this, metaTypeOf]

example : getMetaSeqData (metaSequencerData (List.replicate 16384 0x81)) = some (List.replicate 16384 0x81) :=
  seqdata_roundtrip _ (by intro h; have := congrArg List.length h; rw [List.length_replicate] at this; exact absurd this (by decide))
    (by rw [List.length_replicate]; omega)

/-- why the payload has to be non-empty: `FF 7F 00` is shorter than the accessor's minimum of four bytes -/
theorem seqdata_empty_rejected : getMetaSeqData (metaSequencerData []) = none := by decide

theorem channel_roundtrip (c : Nat) : getMetaChannel (metaChannel c) = some c := by
  simp [getMetaChannel, metaChannel, metaMessage, isType, metaTypeOf, Vlq.encode_small]

theorem port_roundtrip (p : Nat) : getMetaPort (metaPort p) = some p := by
  simp [getMetaPort, metaPort, metaMessage, isType, metaTypeOf, Vlq.encode_small]

/-- all 65536 sequence numbers -/
theorem seqno_roundtrip (n : Nat) (h : n < 65536) : getMetaSeqNumber (metaSequenceNo n) = some n := by
  simp [getMetaSeqNumber, metaSequenceNo, metaMessage, isType, metaTypeOf, Vlq.encode_small, be16]
  omega

example : (65535 : Nat) < 65536 := by decide

theorem smpte_roundtrip (hr mn se fr ff : Nat) :
    getMetaSMPTE (metaSMPTE hr mn se fr ff) = some (hr, mn, se, fr, ff) := by
  simp [getMetaSMPTE, metaSMPTE, metaMessage, isType, metaTypeOf, Vlq.encode_small]

/-- Time signature with denominator `2^e`, `e = 0..7` (1, 2, 4, …, 128): numerator and denominator come
    back, the stored denominator is the exponent, and a clock field comes back unchanged unless it is zero,
    which is the documented shorthand for 8. -/
theorem timesig_roundtrip (n e c q : Nat) (he : e ≤ 7) :
    getMetaTimeSig (metaTimeSig n (2 ^ e) c q) =
      some (n, 2 ^ e, if c = 0 then 8 else c, if q = 0 then 8 else q) ∧
    metaTimeSig n (2 ^ e) c q = metaMessage 0x58 [n, e, if c = 0 then 8 else c, if q = 0 then 8 else q] := by
  refine ⟨getMetaTimeSig_metaTimeSig n e c q he, ?_⟩
  have := denom_pow2 ⟨e, by omega⟩
  simp only at this
  simp [metaTimeSig, this.1]

example : (7 : Nat) ≤ 7 ∧ (2 : Nat) ^ 7 = 128 := by decide

/-- for non-zero clock fields this is the identity -/
theorem timesig_roundtrip_nonzero (n e c q : Nat) (he : e ≤ 7) (hc : c ≠ 0) (hq : q ≠ 0) :
    getMetaTimeSig (metaTimeSig n (2 ^ e) c q) = some (n, 2 ^ e, c, q) := by
  rw [getMetaTimeSig_metaTimeSig n e c q he]; simp [hc, hq]

theorem meter_roundtrip (n e : Nat) (he : e ≤ 7) :
    getMetaMeter (metaMeter n (2 ^ e)) = some (n, 2 ^ e) := by
  simp [getMetaMeter, metaMeter, getMetaTimeSig_metaTimeSig n e 8 8 he]

/-- the circle of fifths of `Meta.Spec` in numbers (pitch class of the tonic by number of accidentals) -/
theorem circle_of_fifths :
    (List.range 8).map (Spec.tonic true false) = [0, 7, 2, 9, 4, 11, 6, 1].map some ∧     -- C G D A E B F♯ C♯
    (List.range 8).map (Spec.tonic true true) = [0, 5, 10, 3, 8, 1, 6, 11].map some ∧     -- C F B♭ E♭ A♭ D♭ G♭ C♭
    (List.range 8).map (Spec.tonic false false) = [9, 4, 11, 6, 1, 8, 3, 10].map some ∧   -- a e b f♯ c♯ g♯ d♯ a♯
    (List.range 8).map (Spec.tonic false true) = [9, 2, 7, 0, 5, 10, 3, 8].map some := by -- a d g c f b♭ e♭ a♭
  decide +kernel

/-- For every count of 0..7 accidentals, flats or sharps, major or minor (and whatever is passed as `key`,
    which the constructor ignores) the accessor returns the tonic the circle of fifths gives, the count, the
    mode, and the flat flag (no accidentals = not flat). -/
theorem keysig_roundtrip (k n : Nat) (isMajor isFlat : Bool) (hn : n ≤ 7) :
    ∃ pc, Spec.tonic isMajor isFlat n = some pc ∧
      getMetaKeySig (metaKey k isMajor n isFlat) = some ⟨pc, n, isMajor, isFlat && n != 0⟩ := by
  obtain ⟨hs, h⟩ := keysig_table ⟨n, by omega⟩ isMajor isFlat
  simp only at hs h
  obtain ⟨pc, hpc⟩ := Option.isSome_iff_exists.mp hs
  rw [hpc] at h
  exact ⟨pc, hpc, by rw [metaKey_ignores_key k 0]; exact h.symm⟩

example : ∃ pc, Spec.tonic false true 6 = some pc ∧
    getMetaKeySig (metaKey 0 false 6 true) = some ⟨pc, 6, false, true⟩ := keysig_roundtrip 0 6 false true (by omega)

/-- The 26 named constructors, on the bytes the compiled library produced in this run: each name denotes a
    key of the circle of fifths (`Spec.keyOfName`), the accessor reads exactly that key from the
    constructor's bytes, the model's constructor of that name yields the same bytes, and `Key.String()` —
    of the implementation's read-back and of the model — is the name. -/
theorem named_keys :
    Facts.c15NamedKeys.length = 26 ∧ (Facts.c15NamedKeys.map (·.1)).Nodup ∧
    ∀ e ∈ Facts.c15NamedKeys,
      (Spec.keyOfName e.1).isSome = true ∧
      getMetaKeySig e.2.1 = Spec.keyOfName e.1 ∧
      namedKey e.1 = some e.2.1 ∧
      e.2.2 = e.1 ∧
      (getMetaKeySig e.2.1).map keyString = some e.1 := by
  decide +kernel

/-- `smf/key.go` as parsed in this run declares exactly these constructors — same names, same order, same
    literal count / mode / flat arguments as the model's table (the first argument of `key(…)` is dropped by
    `MetaKey` and therefore not compared) — and the `keyStrings[Key{…}] = "Name"` statements register exactly the
    model's table for `Key.String()`. -/
theorem key_declarations :
    Facts.c15KeyDecls.map (fun e => (e.1, e.2.2)) = namedKeys.map (fun e => (e.1, e.2.2)) ∧
    Facts.c15KeyStringDecls = namedKeys ∧
    Facts.c15KeyDecls.map (·.1) = Facts.c15NamedKeys.map (·.1) := by
  decide +kernel

/-! ## Tempo: the 24-bit microseconds-per-quarter field -/

/-- For every `u` with `1 ≤ u ≤ 0xFFFFFF` the constructor (given the rounded microsecond value) stores
    exactly `u`, big-endian in three bytes, and the accessor reads `u` back — the value whose quotient
    `60000000 / u` it returns as BPM (`u ≠ 0`, so that quotient is defined). -/
theorem tempo_field_roundtrip (u : Nat) (h1 : 1 ≤ u) (h2 : u ≤ 0xFFFFFF) :
    metaTempoMicros u = [0xFF, 0x51, 0x03, u / 65536, u / 256 % 256, u % 256] ∧
    getMetaTempo (metaTempoMicros u) = some u ∧ u ≠ 0 :=
  ⟨metaTempoMicros_bytes u h1 h2, getMetaTempo_metaTempoMicros u h1 h2, by omega⟩

example : (1 : Nat) ≤ 0xFFFFFF ∧ (1 : Nat) ≤ 1 := by decide

/-- For every rational tempo `bpm = p/q` whose exact rounding `round(60000000/bpm)` is `u` in the field's
    range, the stored field is `u`, it reads back as `u`, i.e. decodes to `60000000/u` BPM, and that is the
    given tempo to within the resolution of the field: `|60000000/bpm − u| ≤ 1/2` microsecond per quarter. -/
theorem tempo_rational (p q u : Nat) (hp : 0 < p) (hr : roundDiv (60000000 * q) p = u)
    (h1 : 1 ≤ u) (h2 : u ≤ 0xFFFFFF) :
    metaTempoRat p q = [0xFF, 0x51, 0x03, u / 65536, u / 256 % 256, u % 256] ∧
    getMetaTempo (metaTempoRat p q) = some u ∧
    2 * (u * p) ≤ 2 * (60000000 * q) + p ∧ 2 * (60000000 * q) < 2 * (u * p) + p := by
  have hn := roundDiv_nearest (60000000 * q) p hp
  rw [hr] at hn
  unfold metaTempoRat
  rw [hr]
  exact ⟨metaTempoMicros_bytes u h1 h2, getMetaTempo_metaTempoMicros u h1 h2, hn.1, hn.2⟩

/-- Every tempo from 3.58 to 60 000 000 BPM satisfies the hypothesis of `tempo_rational`. -/
theorem tempo_range (p q : Nat) (hq : 0 < q) (hlo : 358 * q ≤ 100 * p) (hhi : p ≤ 60000000 * q) :
    1 ≤ roundDiv (60000000 * q) p ∧ roundDiv (60000000 * q) p ≤ 0xFFFFFF := by
  have hp : 0 < p := by omega
  unfold roundDiv
  constructor
  · rw [Nat.le_div_iff_mul_le (by omega)]; omega
  · have : (2 * (60000000 * q) + p) / (2 * p) < 16777216 := by
      rw [Nat.div_lt_iff_lt_mul (by omega)]; omega
    omega

/-- 120 BPM = 500 000 µs; 3.58 BPM and 60 000 000 BPM are the ends -/
example : roundDiv (60000000 * 1) 120 = 500000 ∧ roundDiv (60000000 * 100) 358 = 16759777 ∧
    roundDiv (60000000 * 1) 60000000 = 1 := by decide

/-! ## The type tables the accessors dispatch on, as compiled in this run -/

/-- `smf.Message{0xFF, b, 0}.Type()` for all 256 `b`, the values of the exported type constants, and the
    fact that no message without the `FF` prefix has a meta type, are what the model assumes. -/
theorem type_tables :
    Facts.c15MetaTypes = (List.range 256).map (fun b => (metaTypeOf b : Int)) ∧
    Facts.c15TypeConsts = typeConsts.map (fun e => (e.1, (e.2 : Int))) ∧
    Facts.c15NonMetaTypeMax < 70 := by
  decide +kernel

end Midi.C15
