import Proofs.Midicat
import MidiModel.Generated.Facts
/-!
# C19 — the midicat text line protocol is lossless and self-framing

Model: `MidiModel/Midicat.lean`. `encodeRec ts bs` = `fmt.Fprintf(wr, "%d %X\n", ts, bs)` as a byte list;
`readAndConvert inp` = one `midicat.ReadAndConvert` call on an in-memory stream (result class and what is
left of the stream); `readAndConvertS s` = the same call against a fragmenting `io.Reader` model `Src`
(arbitrary piece sizes incl. empty reads, EOF alone or together with the last byte); `readMany n` /
`readManyS n` = `n` successive calls. Bytes are `Nat`s (`' '` = 32, `'\n'` = 10).

Domain (`RecOK`): time stamp in the `int32` range, at least one message byte, every byte < 256 (no upper
bound on the message length: 1..2000 of the property text is covered). `BadLine l` (below): a line damaged in one of
the three ways the property names.
-/
namespace Midi.C19
open Midi Midi.Midicat

/-- One call on a stream that starts with an encoded record returns exactly that record and consumes
    exactly its line, whatever follows. -/
theorem decode_encode_record (ts : Int) (bs rest : Bytes) (h : RecOK (ts, bs)) :
    readAndConvert (encodeRec ts bs ++ rest) = (.ok ts bs, rest) := by
  have := (Outcome.line (rest := rest) (plain_decimal ts) (parseInt_decimal ts h.1)
    (plain_of_allHex (allHex_hexStr bs))).readAndConvert
  rw [conv, scanHex_hexStr bs h.2.1 h.2.2] at this
  simpa [encodeRec] using this

/-- ANY sequence of records decodes back record by record, one record per call, and the calls consume
    exactly the encoded records (`rest` is untouched). -/
theorem decode_encode_stream (recs : List (Int × Bytes)) (rest : Bytes) (h : ∀ r ∈ recs, RecOK r) :
    readMany recs.length (encodeStream recs ++ rest) = (recs.map (fun r => Res.ok r.1 r.2), rest) := by
  induction recs with
  | nil => rfl
  | cons r recs ih =>
    rw [encodeStream, List.append_assoc, List.length_cons,
      readMany_succ _ _ _ _ (decode_encode_record r.1 r.2 _ (h r (by simp))), ih fun x hx => h x (by simp [hx])]
    rfl

/-- after the last record the end of the stream is reported as an error, not as a record -/
theorem end_of_stream_is_error : readAndConvert [] = (.err .read, []) := rfl

example : RecOK (-2147483648, [0x90, 0x0A, 0x20, 0x00, 0xFF]) := by
  refine ⟨by simp [Int32Range], by simp, ?_⟩
  intro b hb; simp at hb; omega

example : readMany 3 (encodeStream [(-2147483648, [0x90, 0x0A, 0x20]), (0, [0x00]), (2147483647, [0xFF, 0x0F])] ++ [55])
    = ([.ok (-2147483648) [0x90, 0x0A, 0x20], .ok 0 [0x00], .ok 2147483647 [0xFF, 0x0F]], [55]) := by decide +kernel

/-- The reader asks its source for one byte at a time, so the results of any number of calls against ANY
    source (any piece sizes, empty reads, EOF with or after the last byte) are those of the in-memory
    reader on the source's data, and the source is left with the same unread bytes. -/
theorem fragmentation_independent (n : Nat) (s : Src) :
    (readManyS n s).1 = (readMany n s.data).1 ∧ (readManyS n s).2.data = (readMany n s.data).2 := by
  induction n generalizing s with
  | zero => exact ⟨rfl, rfl⟩
  | succ n ih =>
    obtain ⟨s1, h1, hd1⟩ := readAndConvertS_eq s
    have ⟨i1, i2⟩ := ih s1
    rw [hd1] at i1 i2
    simp only [readManyS, readMany, h1]
    exact ⟨congrArg (_ :: ·) i1, i2⟩

/-- two sources with the same data cannot be told apart through `ReadAndConvert` -/
theorem fragmentation_irrelevant (n : Nat) (data : Bytes) (f1 f2 : List Nat) (e1 e2 : Bool) :
    (readManyS n ⟨data, f1, e1⟩).1 = (readManyS n ⟨data, f2, e2⟩).1 := by
  rw [(fragmentation_independent n ⟨data, f1, e1⟩).1, (fragmentation_independent n ⟨data, f2, e2⟩).1]

/-- the round trip over every fragmenting source -/
theorem decode_encode_stream_fragmented (recs : List (Int × Bytes)) (rest : Bytes) (fr : List Nat) (e : Bool)
    (h : ∀ r ∈ recs, RecOK r) :
    (readManyS recs.length ⟨encodeStream recs ++ rest, fr, e⟩).1 = recs.map (fun r => Res.ok r.1 r.2) ∧
    (readManyS recs.length ⟨encodeStream recs ++ rest, fr, e⟩).2.data = rest := by
  have := fragmentation_independent recs.length ⟨encodeStream recs ++ rest, fr, e⟩
  rw [this.1, this.2]
  simp [decode_encode_stream recs rest h]

example : (readManyS 2 ⟨encodeStream [(12, [0x90, 0x40]), (-5, [0x80])], [3, 0, 0, 1, 2, 0, 50], true⟩).1
    = [.ok 12 [0x90, 0x40], .ok (-5) [0x80]] := by decide +kernel

/-- Whenever a call returns a record, the stream started with exactly one line `time ' ' hex '\n'`: no blank or
    newline inside the fields, the time field a complete `int32` numeral giving the returned stamp, the hex
    field an even, non-zero number of hex digits giving the returned bytes; exactly that line was consumed.
    (Contrapositive: every malformed line is an error; no record is made up from neighbouring lines.) -/
theorem record_only_from_wellformed_line (inp rest : Bytes) (ts : Int) (bs : Bytes)
    (h : readAndConvert inp = (.ok ts bs, rest)) :
    ∃ a hs, inp = a ++ 32 :: (hs ++ 10 :: rest) ∧ Plain a ∧ parseInt a = some ts ∧
      AllHex hs ∧ scanHex hs = some bs ∧ hs.length = 2 * bs.length ∧ bs ≠ [] := by
  rw [readAndConvert_eq] at h
  -- of the six shapes a stream can have only a complete line yields `ok` with a hex field that decodes
  have ho := outcome_readLoop inp
  generalize readLoop inp {} = r at h ho
  cases ho with
  | line ha hd hh =>
    simp only [conv] at h
    split at h
    · cases h
    · next hs =>
      cases h
      have ⟨h1, h2, h3⟩ := scanHex_some hs
      exact ⟨_, _, rfl, ha, hd, h1, hs, h2, h3⟩
  | _ => cases h

/-- self-framing: the outcome of a call depends only on the bytes up to the first newline, and what it leaves
    behind is what it would leave of that line alone, followed by the untouched rest -/
theorem self_framing (l rest : Bytes) (hl : ∀ b ∈ l, b ≠ 10) :
    readAndConvert (l ++ 10 :: rest) = ((readAndConvert (l ++ [10])).1, (readAndConvert (l ++ [10])).2 ++ rest) := by
  simp only [readAndConvert_eq, readLoop_framing l rest]

/-- a line (without its newline) damaged by one of: odd hex length (a digit dropped or added), a byte that
    is no hex digit in the hex field, the separator missing -/
inductive BadLine : Bytes → Prop
  | oddHex (ts : Int) (hs : Bytes) : Int32Range ts → Plain hs → hs.length % 2 = 1 → BadLine (decimal ts ++ 32 :: hs)
  | nonHex (ts : Int) (h1 : Bytes) (c : Nat) (h2 : Bytes) : Int32Range ts → Plain h1 → Plain h2 → c ≠ 32 → c ≠ 10 →
      isHex c = false → BadLine (decimal ts ++ 32 :: (h1 ++ c :: h2))
  | noSep (a : Bytes) : Plain a → BadLine a

/-- odd hex length, non-hex character, missing separator: the call returns an error and consumes exactly the
    damaged line -/
theorem malformed_errors (l : Bytes) (hb : BadLine l) (rest : Bytes) :
    readAndConvert (l ++ 10 :: rest) = (.err .hex, rest) := by
  cases hb with
  | oddHex ts hs hts hp hodd =>
    rw [List.append_assoc, List.cons_append,
      (Outcome.line (plain_decimal ts) (parseInt_decimal ts hts) hp).readAndConvert, conv, scanHex_none_of_odd hs hodd]
  | nonHex ts h1 c h2 hts hp1 hp2 h32 h10 hc =>
    have hp : Plain (h1 ++ c :: h2) := plain_append.mpr ⟨hp1, plain_cons.mpr ⟨⟨h32, h10⟩, hp2⟩⟩
    rw [List.append_assoc, List.cons_append,
      (Outcome.line (plain_decimal ts) (parseInt_decimal ts hts) hp).readAndConvert, conv,
      scanHex_none_of_nonhex _ c hc (by simp)]
  | noSep _ hp => exact (Outcome.noSep hp).readAndConvert

/-- … and the records behind the damaged line are decoded intact, one per call -/
theorem later_records_intact (l : Bytes) (hb : BadLine l) (recs : List (Int × Bytes)) (rest : Bytes)
    (h : ∀ r ∈ recs, RecOK r) :
    readMany (recs.length + 1) (l ++ 10 :: (encodeStream recs ++ rest)) =
      (.err .hex :: recs.map (fun r => Res.ok r.1 r.2), rest) := by
  rw [readMany_succ _ _ _ _ (malformed_errors l hb _), decode_encode_stream recs rest h]

/-- non-hex character = a blank inside the hex field: the call fails at the blank; what is left of the line
    fails as a line of its own; then the later records are decoded intact -/
theorem malformed_blank_in_hex (ts : Int) (h1 h2 : Bytes) (recs : List (Int × Bytes)) (rest : Bytes)
    (hts : Int32Range ts) (hp1 : Plain h1) (hp2 : Plain h2) (h : ∀ r ∈ recs, RecOK r) :
    readMany (recs.length + 2) (decimal ts ++ 32 :: (h1 ++ 32 :: (h2 ++ 10 :: (encodeStream recs ++ rest)))) =
      (.err .sep :: .err .hex :: recs.map (fun r => Res.ok r.1 r.2), rest) := by
  rw [readMany_succ _ _ _ _ (Outcome.sep (plain_decimal ts) (parseInt_decimal ts hts) hp1).readAndConvert,
    later_records_intact h2 (.noSep h2 hp2) recs rest h]
  rfl

/-- missing terminator at the end of the stream (more generally: no newline in what is left): an error,
    never a record -/
theorem malformed_missing_terminator (tail : Bytes) (hl : ∀ b ∈ tail, b ≠ 10) :
    ∃ k rem, readAndConvert tail = (.err k, rem) := by
  rw [readAndConvert_eq]
  have ho := outcome_readLoop tail
  generalize readLoop tail {} = r at ho
  cases ho with
  | noSep | line => exact absurd rfl (hl 10 (by simp))
  | _ => exact ⟨_, _, rfl⟩

/-- missing terminator between two records: the second blank is an error, the rest of the merged line is an
    error, neither record nor a mixture of them is returned, and the later records are decoded intact -/
theorem malformed_missing_terminator_mid (ts1 ts2 : Int) (bs1 bs2 : Bytes) (recs : List (Int × Bytes)) (rest : Bytes)
    (h1 : Int32Range ts1) (h : ∀ r ∈ recs, RecOK r) :
    readMany (recs.length + 2)
      (decimal ts1 ++ 32 :: (hexStr bs1 ++ (encodeRec ts2 bs2 ++ (encodeStream recs ++ rest)))) =
      (.err .sep :: .err .hex :: recs.map (fun r => Res.ok r.1 r.2), rest) := by
  have hp : Plain (hexStr bs1 ++ decimal ts2) :=
    plain_append.mpr ⟨plain_of_allHex (allHex_hexStr bs1), plain_decimal ts2⟩
  have := malformed_blank_in_hex ts1 (hexStr bs1 ++ decimal ts2) (hexStr bs2) recs rest h1 hp
    (plain_of_allHex (allHex_hexStr bs2)) h
  rw [← this]
  simp [encodeRec, List.append_assoc]

/-! Non-vacuity and the three inputs that the reader accepted before the repair
    `fix: midicat line reader accepted malformed lines` (now errors). -/

-- "12 90x040\n" (was: record (12, [90]))
example : readAndConvert [49, 50, 32, 57, 48, 120, 48, 52, 48, 10] = (.err .hex, []) := by decide +kernel
example : BadLine [49, 50, 32, 57, 48, 120, 48, 52, 48] := by
  have := BadLine.nonHex 12 [57, 48] 120 [48, 52, 48] (by simp [Int32Range])
    (by intro b hb; simp at hb; omega) (by intro b hb; simp at hb; omega) (by omega) (by omega) (by decide)
  simpa [decimal, natDec, natDecF] using this
-- "12 904\n" (odd), "129040\n" (no separator)
example : BadLine [49, 50, 32, 57, 48, 52] := by
  have := BadLine.oddHex 12 [57, 48, 52] (by simp [Int32Range]) (by intro b hb; simp at hb; omega) (by decide)
  simpa [decimal, natDec, natDecF] using this
example : BadLine [49, 50, 57, 48, 52, 48] := .noSep _ (by intro b hb; simp at hb; omega)
-- "12 9040" ++ "13 8030\n" ++ "7 C0\n" (was: ONE record (12, [90 40 13 80 30]))
example : readMany 3 [49, 50, 32, 57, 48, 52, 48, 49, 51, 32, 56, 48, 51, 48, 10, 55, 32, 67, 48, 10]
    = ([.err .sep, .err .hex, .ok 7 [0xC0]], []) := by decide +kernel
-- "12 9040\n" with the newline delivered together with io.EOF (was: error, record lost)
example : (readManyS 2 ⟨[49, 50, 32, 57, 48, 52, 48, 10], [], true⟩).1 = [.ok 12 [0x90, 0x40], .err .read] := by decide +kernel

/-! ## the finite tables of the standard library the model relies on, as the compiled library has them now -/

/-- `%X` of every single byte is the model's `hexUp` -/
theorem fmt_hex_table : Facts.midicatHexUp = (List.range 256).map hexUp := by decide +kernel

/-- `encoding/hex` accepts exactly the model's hex digits, with the model's values -/
theorem hex_decode_table :
    Facts.midicatHexVal = (List.range 256).map (fun c => match Midicat.hexVal c with | some v => v | none => 16) := by
  decide +kernel

end Midi.C19
