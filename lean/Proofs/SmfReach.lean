import Proofs.SmfFile
/-! Every SMF value reachable through the API from well-formed messages lies in the domain. -/
namespace Midi.Smf
open Midi.Vlq

def OpOK : HOp → Prop
  | .add _ δ msgs => δ < 4294967296 ∧ ∀ m ∈ msgs, ValidMsg m
  | .close _ δ => δ < 4294967296
  | .smfAdd _ => True

theorem BodyOK_nil : BodyOK [] := by simp [BodyOK]

theorem TrackOK_nil : TrackOK [] := ⟨[], BodyOK_nil, Or.inl rfl⟩

theorem addEvents_valid (msgs : List Msg) (h : ∀ m ∈ msgs, ValidMsg m) :
    ∀ δ, δ < 4294967296 → ∃ b : ATrack, BodyOK b ∧ addEvents δ msgs = b.map evOf := by
  induction msgs with
  | nil => intro δ _; exact ⟨[], BodyOK_nil, rfl⟩
  | cons m ms ih =>
    intro δ hδ
    obtain ⟨e, hv, hne, rfl⟩ := h m (by simp)
    obtain ⟨b, hb, he⟩ := ih (fun m hm => h m (by simp [hm])) 0 (by omega)
    refine ⟨(δ, e) :: b, ?_, by simp [addEvents, he, evOf]⟩
    intro x hx
    rcases List.mem_cons.mp hx with rfl | hx
    · exact ⟨hv, hne, hδ⟩
    · exact hb x hx

theorem TrackOK_add (t : Track) (δ : Nat) (msgs : List Msg) (ht : TrackOK t)
    (hδ : δ < 4294967296) (hm : ∀ m ∈ msgs, ValidMsg m) : TrackOK (t.add δ msgs) := by
  obtain ⟨body, hb, rfl | ⟨δe, hδe, rfl⟩⟩ := ht
  · obtain ⟨b, hb2, he⟩ := addEvents_valid msgs hm δ hδ
    refine ⟨body ++ b, fun x hx => (List.mem_append.mp hx).elim (hb x) (hb2 x), Or.inl ?_⟩
    simp [Track.add, body_open body hb, he]
  · rw [add_closed]
    exact ⟨body, hb, Or.inr ⟨δe, hδe, rfl⟩⟩

theorem TrackOK_close (t : Track) (δ : Nat) (ht : TrackOK t) (hδ : δ < 4294967296) : TrackOK (t.close δ) := by
  obtain ⟨body, hb, rfl | ⟨δe, hδe, rfl⟩⟩ := ht
  · exact ⟨body, hb, Or.inr ⟨δ, hδ, close_open _ _ (body_open body hb)⟩⟩
  · rw [close_closed]
    exact ⟨body, hb, Or.inr ⟨δe, hδe, rfl⟩⟩

def LocalsOK (ls : List Track) : Prop := ∀ t ∈ ls, TrackOK t

theorem getLocal_ok (ls : List Track) (i : Nat) (h : LocalsOK ls) : TrackOK (getLocal ls i) := by
  unfold getLocal
  rw [List.getD_eq_getElem?_getD]
  cases hg : ls[i]? with
  | none => simpa using TrackOK_nil
  | some t => simpa using h t (List.mem_of_getElem? hg)

theorem setLocal_ok (ls : List Track) (i : Nat) (t : Track) (h : LocalsOK ls) (ht : TrackOK t) :
    LocalsOK (setLocal ls i t) := by
  unfold setLocal
  intro x hx
  have hx' := List.mem_or_eq_of_mem_set hx
  rcases hx' with hx' | rfl
  · split at hx'
    · simp at hx'
      rcases hx' with hx' | ⟨_, rfl⟩
      · exact h x hx'
      · exact TrackOK_nil
    · exact h x hx'
  · exact ht

structure HInv (h : HState) : Prop where
  locals : LocalsOK h.locals
  tracks : ∀ t ∈ h.file.tracks, TrackOK t
  fmt : h.file.format ≤ 2

theorem HState.step_inv (h : HState) (op : HOp) (hi : HInv h) (ho : OpOK op) : HInv (h.step op) := by
  cases op with
  | add i δ msgs =>
    exact ⟨setLocal_ok _ _ _ hi.locals (TrackOK_add _ _ _ (getLocal_ok _ _ hi.locals) ho.1 ho.2), hi.tracks, hi.fmt⟩
  | close i δ =>
    exact ⟨setLocal_ok _ _ _ hi.locals (TrackOK_close _ _ (getLocal_ok _ _ hi.locals) ho), hi.tracks, hi.fmt⟩
  | smfAdd i =>
    refine ⟨hi.locals, ?_, ?_⟩
    · intro t ht
      simp [HState.step, File.addTrack] at ht
      rcases ht with ht | rfl
      · exact hi.tracks t ht
      · exact getLocal_ok _ _ hi.locals
    · have := hi.fmt
      simp only [HState.step, File.addTrack]
      split <;> omega

theorem foldl_inv (ops : List HOp) (h : HState) (hi : HInv h) (ho : ∀ op ∈ ops, OpOK op) :
    HInv (ops.foldl HState.step h) := by
  induction ops generalizing h with
  | nil => exact hi
  | cons op ops ih =>
    exact ih _ (h.step_inv op hi (ho op (by simp))) (fun o h' => ho o (by simp [h']))

def countAdds (ops : List HOp) : Nat := (ops.filter (fun o => match o with | .smfAdd _ => true | _ => false)).length

theorem HState.step_file (h : HState) (op : HOp) :
    (h.step op).file.tf = h.file.tf ∧ (h.step op).file.tracks.length = h.file.tracks.length + countAdds [op] := by
  cases op <;> simp [HState.step, File.addTrack, countAdds]

theorem foldl_file (ops : List HOp) (h : HState) :
    (ops.foldl HState.step h).file.tf = h.file.tf ∧
      (ops.foldl HState.step h).file.tracks.length = h.file.tracks.length + countAdds ops := by
  induction ops generalizing h with
  | nil => simp [countAdds]
  | cons op ops ih =>
    obtain ⟨h1, h2⟩ := h.step_file op
    obtain ⟨h3, h4⟩ := ih (h.step op)
    refine ⟨h3.trans h1, ?_⟩
    rw [List.foldl_cons, h4, h2]
    simp only [countAdds, List.filter_cons]
    split <;> simp <;> omega

theorem reach_dom (fmt : Nat) (tf : TimeFormat) (ops : List HOp) (hfmt : fmt ≤ 2) (htf : ValidTF tf)
    (ho : ∀ op ∈ ops, OpOK op) (h1 : 1 ≤ countAdds ops) (h2 : countAdds ops < 65536) :
    Dom (reach fmt tf ops) := by
  have hi := foldl_inv ops ⟨⟨fmt, tf, []⟩, []⟩ ⟨(by intro t ht; cases ht), (by intro t ht; cases ht), hfmt⟩ ho
  obtain ⟨ht, hc⟩ := foldl_file ops ⟨⟨fmt, tf, []⟩, []⟩
  simp only [List.length_nil, Nat.zero_add] at hc
  refine ⟨hi.fmt, by simpa [reach, ht] using htf, ?_, by simp only [reach]; omega, hi.tracks⟩
  intro hnil
  have : (reach fmt tf ops).tracks.length = 0 := by simp [hnil]
  simp only [reach] at this
  omega

end Midi.Smf
