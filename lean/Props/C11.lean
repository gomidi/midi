import Proofs.Tempo
/-!
# C11 — tick-to-time conversion follows the tempo map exactly

Model: `MidiModel/Tempo.lean` (`finish` = `finishTempoChanges` = sort + `calculateAbsTimes`, `timeAt` = `SMF.TimeAt`,
`doTrack` = the loop of `TracksReader.Do`, `collect` = the reader's tempo bookkeeping). The tempo map is a list of
`(absolute tick, microseconds per quarter u)`; the Go code stores `BPM = 6e7/u` as float64 and converts with
`MetricTicks.Duration` (float64 + `math.Round`). **Floats do not enter Lean**: `dur u d` (microseconds of `d` ticks at
tempo `u` for the file's resolution `q`) is a parameter of the model and the theorems assume `DurOK dur q H`
(`Proofs/Tempo.lean`): `dur u 0 = 0`, monotone in `d`, within one microsecond of the exact `u·d/q` for segment
durations up to the horizon `H`. That the *float* code meets `DurOK` is validated differentially
on every run (support, not proof) — this is the named partial aspect of C11. `durRef_durOK` proves it for the
rational reference the driver executes.

Domain (`InDomain q H m t`, needed by `timeAt_error` only): every tempo segment on the way to `t` lasts at most `H`
microseconds — the range on which `DurOK` asks `dur` to be accurate. There is no bound on the ticks: since the repair
c7c6d62 the code passes the int64 tick difference to `duration64` unconverted (before, `uint32(...)` truncated it).
`inDomain_of_small`: exact time of `t` at most `H` suffices.
`timeAt_mono` and `do_times_eq_timeAt` hold for all ticks without any domain condition.

Sorting: `finish` sorts with the model `sortTc` of `sort.Sort`; all theorems hold for *every* collection order `m`
relative to the sorted slice `sortTc m`. The tie to the code's `sort.Sort` is only claimed where its result is
determined (already non-decreasing — the case of the property, tempo events in one track, see `one_track_sorted`
and `sort_untouched` — or pairwise distinct ticks); for an unsorted slice with repeated ticks `sort.Sort` (unstable)
may order the equal entries either way, whichever it picks the result is *a* sorted slice, but which tempo wins at
the repeated tick is unspecified.

Everything is stated in natural numbers scaled by `q` (`integral m t` = `q ·` exact microseconds).
-/
namespace Midi.C11
open Midi Midi.Tempo

/-- The absolute time `TimeAt` reports for tick `t` differs from the exact integral of the tempo map (every tick `k < t`
    lasts `uAt k / q` µs: 120 BPM before the first tempo event, each tempo valid from its tick until the next, the last
    of several events on one tick wins) by at most one microsecond per completed tempo segment plus one for the
    running segment. -/
theorem timeAt_error (dur : Nat → Nat → Nat) (q H : Nat) (hd : DurOK dur q H) (m : Map) (t : Nat)
    (hdom : InDomain q H (sortTc m) t) :
    q * timeAt dur (finish dur m) t ≤ integral (sortTc m) t + q * (segments (sortTc m) t + 1) ∧
    integral (sortTc m) t ≤ q * timeAt dur (finish dur m) t + q * (segments (sortTc m) t + 1) := by
  have h := timeSimple_error hd (sortTc m) tc0 t hdom
  rw [timeAt_finish_eq, ← exactNum_eq_integral _ (sortTc_sorted m)]
  simpa [exactNum, segments, tc0] using h

/-- `TimeAt` is non-decreasing in the tick, for all ticks (uses only `dur u 0 = 0` and monotonicity of `dur`). -/
theorem timeAt_mono (dur : Nat → Nat → Nat) (q H : Nat) (hd : DurOK dur q H) (m : Map) (t t' : Nat) (htt : t ≤ t') :
    timeAt dur (finish dur m) t ≤ timeAt dur (finish dur m) t' := by
  rw [timeAt_finish_eq, timeAt_finish_eq]
  exact timeSimple_mono hd.zero hd.mono (sortTc m) tc0 t t' htt

/-- The times handed out by `TracksReader.Do` for a track with deltas `ds` are `TimeAt` of the running sum of the
    deltas: event `i` gets absolute tick `Σ_{j ≤ i} ds[j]` and that tick's `TimeAt` (so `timeAt_error` and `timeAt_mono`
    apply to them verbatim). -/
theorem do_times_eq_timeAt (dur : Nat → Nat → Nat) (l : List Tc) (ds : List Nat) :
    doTrack dur l ds 0 = (absTicks ds 0).map (fun a => (a, timeAt dur l a)) ∧
    ∀ i, i < ds.length → (absTicks ds 0)[i]? = some ((ds.take (i + 1)).sum) := by
  refine ⟨doTrack_eq dur l ds 0, fun i hi => ?_⟩
  simpa using absTicks_getElem? ds 0 i hi

/-- Converting ticks to a duration and back returns the tick count (integers, explicit error budget):
    if `D` ns is within `(500+e1)/1000` ns of the exact duration `1000·u·n/q` of `n` ticks, `T` is within `(500+e2)/1000`
    ticks of `D·q/(1000·u)`, and `q·(500+e1) + 1000·u·(500+e2) < 10^6·u`, then `T = n`.
    On the stated domain (durations < 2^40 µs, tick rate < 10^7/s, i.e. tick length `1000u/q > 100` ns) float64 gives
    `e1 < 500` (0.5 ns) and `e2 < 10` and the budget holds with room: `q·1000 + 1000·u·510 < 10·u·1000 + 510000·u`. -/
theorem ticks_dur_inverse (q u n D T e1 e2 : Nat)
    (hD1 : 1000 * (q * D) ≤ 1000 * (1000 * (u * n)) + q * (500 + e1))
    (hD2 : 1000 * (1000 * (u * n)) ≤ 1000 * (q * D) + q * (500 + e1))
    (hT1 : 1000 * (u * T) ≤ q * D + u * (500 + e2))
    (hT2 : q * D ≤ 1000 * (u * T) + u * (500 + e2))
    (hb : q * (500 + e1) + 1000 * (u * (500 + e2)) < 1000000 * u) : T = n := by
  -- `u·T` and `u·n` are both within the two error terms of `q·D/1000`, together less than `u`
  have h1 : u * T < u * (n + 1) := by rw [Nat.mul_succ]; omega
  have h2 : u * n < u * (T + 1) := by rw [Nat.mul_succ]; omega
  exact Nat.le_antisymm (Nat.le_of_lt_succ (Nat.lt_of_mul_lt_mul_left h1))
    (Nat.le_of_lt_succ (Nat.lt_of_mul_lt_mul_left h2))

/-- The exact-arithmetic versions of `Duration` (round to ns) and `Ticks` (round to ticks) are inverse for every tick
    count as soon as a tick is longer than one nanosecond. -/
theorem ticks_dur_inverse_ref (q u n : Nat) (hq : 0 < q) (h : q < 1000 * u) :
    ticksRef q u (durNsRef q u n) = n := by
  have hD := roundDiv_spec (1000 * u * n) q hq
  have hT := roundDiv_spec (q * durNsRef q u n) (1000 * u) (by omega)
  unfold ticksRef
  unfold durNsRef at hT ⊢
  rw [Nat.mul_assoc 1000 u n] at hD hT ⊢
  generalize roundDiv (1000 * (u * n)) q = D at hD hT ⊢
  generalize roundDiv (q * D) (1000 * u) = T at hT ⊢
  rw [Nat.mul_assoc 1000 u T] at hT
  -- both roundings are exact to half a unit: the budget with `e1 = e2 = 0`
  apply ticks_dur_inverse q u n D T 0 0 <;> omega

/-- The rational reference of `Duration(...).Microseconds()` that the driver executes satisfies the accuracy
    hypothesis for every resolution and every horizon (so the theorems above are not vacuous). -/
theorem durRef_durOK (q H : Nat) (hq : 0 < q) : DurOK (durRef q) q H := by
  refine ⟨fun u => ?_, fun u d d' h => ?_, fun u d _ => ?_, fun u d _ => ?_⟩
  · rw [durRef_eq, Nat.mul_zero]
    exact Nat.div_eq_of_lt (by omega)
  · rw [durRef_eq, durRef_eq]
    have := Nat.mul_le_mul_left u h
    exact Nat.div_le_div_right (by omega)
  · have := durRef_spec q u d hq
    omega
  · have := durRef_spec q u d hq
    omega

/-- The number the driver returns as exact numerator (`exactNum`, segment-wise products) is the tick-by-tick
    integral of the specification. -/
theorem exactNum_is_integral (m : Map) (t : Nat) : exactNum (sortTc m) t = integral (sortTc m) t :=
  exactNum_eq_integral _ (sortTc_sorted m) t

/-- Simple sufficient condition for the domain: the exact time of `t` is at most the horizon. -/
theorem inDomain_of_small (q H : Nat) (m : Map) (t : Nat)
    (hH : exactNum (sortTc m) t ≤ q * H) : InDomain q H (sortTc m) t :=
  domFrom_of_small q H _ 0 defaultU t hH

/-- An already non-decreasing slice is what the sort returns (the model of `sort.Sort` leaves it untouched, as
    pdqsort does: no element is swapped). -/
theorem sort_untouched (m : Map) (h : isSorted m = true) : sortTc m = m :=
  sortTc_of_sorted m 0 ((isSorted_iff m).1 h)

/-- Tempo events of one track (closed by its end-of-track event) are collected in non-decreasing tick order, so
    for the files of the property the sort changes nothing. -/
theorem one_track_sorted (evs : List TEv) (δ : Nat) (h : ∀ e ∈ evs, e.eot = false) :
    isSorted (collect [evs ++ [⟨δ, none, true⟩]]) = true := by
  rw [isSorted_iff]
  simpa [collect] using collectTrack_sorted evs δ h 0

/-! Non-vacuity: a concrete map with an event at tick 0, a repeated tick and the extreme tempo `u = 1` is inside the
    domain at resolution 96 with the reference duration function, and the executable model computes the expected
    values on it (test of one instance, not a proof of anything general). -/
def sampleMap : Map := [(0, 500000), (96, 250000), (96, 300000), (192, 1), (1000, 16777215)]

example : InDomain 96 (2 ^ 40) (sortTc sampleMap) 2000 :=
  inDomain_of_small 96 (2 ^ 40) sampleMap 2000 (by decide)

example : let f := finish (durRef 96) sampleMap
    96 * timeAt (durRef 96) f 2000 ≤ integral (sortTc sampleMap) 2000 + 96 * (segments (sortTc sampleMap) 2000 + 1) :=
  (timeAt_error (durRef 96) 96 (2 ^ 40) (durRef_durOK 96 _ (by decide)) sampleMap 2000
    (inDomain_of_small 96 (2 ^ 40) sampleMap 2000 (by decide))).1

example : (finish (durRef 96) sampleMap).map (·.time) = [0, 500000, 500000, 800000, 800008] := by decide
example : [96, 97, 192, 193, 1000, 1001].map (timeAt (durRef 96) (finish (durRef 96) sampleMap)) =
    [500000, 503125, 800000, 800000, 800008, 974770] := by decide
example : segments sampleMap 2000 = 3 ∧ exactNum sampleMap 2000 = 16854015808 := by decide
/-- ticks beyond 2^32: resolution 32767, no tempo event — tick 2^32 is 65538.0 s into the file (the former finding) -/
example : [4294967295, 4294967296, 4294967297].map (timeAt (durRef 32767) (finish (durRef 32767) [])) =
    [65538000045, 65538000061, 65538000076] := by decide
example : InDomain 32767 (2 ^ 40) (sortTc [(0, 500000), (4294967296, 250000)]) 8589934592 :=
  inDomain_of_small _ _ _ _ (by decide)
example : ticksRef 960 500000 (durNsRef 960 500000 123456789) = 123456789 :=
  ticks_dur_inverse_ref 960 500000 123456789 (by decide) (by decide)
example : isSorted (collect [[⟨0, some 500000, false⟩, ⟨96, none, false⟩, ⟨0, some 250000, false⟩, ⟨5, none, true⟩]]) = true :=
  one_track_sorted [⟨0, some 500000, false⟩, ⟨96, none, false⟩, ⟨0, some 250000, false⟩] 5 (by decide)

end Midi.C11
