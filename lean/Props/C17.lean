import Proofs.Ports
import MidiModel.Generated.Facts
/-!
# C17 — ports deliver exactly while listening, for every order of lifecycle calls

Model: `MidiModel/Ports.lean`.  `St` is the in-memory loop-back driver `drivers/testdrv` as the code is now,
`Spec` the port contract (deliver iff the out port is open and a listener is active, port-closed error on a
closed out port, a stop function ends its listener, listening again works, open/close idempotent),
`ProtocolOK` the protocol of DESIGN §8 (one active listener at a time, listen on an open port, stop before
close, no stale stop function while a later listener is active).  Callbacks of the test driver run inside
`Send`, so "after the stop function returned" is "in every later call of the history".

The process-backed driver `drivers/midicatdrv` cannot be modelled as a function (goroutines, a helper
process): for it only the lock discipline is proved, over the control paths `tools/extract/lockpaths.go` reads
from the source on every run (`lockpaths_ok`); races, blocking and the helper process are exercised by
`harness_midicat` (support level, see `lib/props/C17.json`).
-/
namespace Midi.C17
open Midi Midi.Ports

/-- For every protocol-respecting history the test driver shows, call by call, exactly what the contract
    prescribes — the result class of every call, the listener callbacks made during it (which listener, which
    message, how often, in which order) and `IsOpen()` of both ports — and ends in the state the contract ends
    in.  In particular a message sent while the out port is open and a listener is active reaches that
    listener exactly once, and one sent with no active listener is dropped with result `ok`. -/
theorem testdrv_refines_spec (ops : List Op) (h : ProtocolOK ops) :
    St.trace St.init ops = Spec.trace Spec.init ops ∧
    abs (St.final St.init ops) = Spec.final Spec.init ops :=
  trace_refines St.init ops h

/-- a non-trivial history that respects the protocol: deliveries, a send without listener, stopping twice,
    listening again, a stale stop function once nobody listens, send on a closed port, double open/close -/
def sampleHistory : List Op :=
  [.openOut, .send 1, .openIn, .openIn, .listen, .send 2, .send 3, .stop 0, .stop 0, .send 4, .listen,
   .send 5, .closeOut, .send 6, .stop 1, .stop 0, .closeIn, .closeIn, .closeOut, .openIn, .listen, .openOut, .send 7]

example : ProtocolOK sampleHistory := by decide

/-- … and on it the executable models say: 2, 3 to listener 0; 5 to listener 1; 7 to listener 2; 6 is refused -/
example : (St.trace St.init sampleHistory).map (fun o => (o.res, o.calls)) =
    [(.ok, []), (.ok, []), (.ok, []), (.ok, []), (.ok, []), (.ok, [(0, 2)]), (.ok, [(0, 3)]), (.ok, []),
     (.ok, []), (.ok, []), (.ok, []), (.ok, [(1, 5)]), (.ok, []), (.closed, []), (.ok, []), (.ok, []),
     (.ok, []), (.ok, []), (.ok, []), (.ok, []), (.ok, []), (.ok, []), (.ok, [(2, 7)])] := by decide

/-- each clause of the protocol is needed: outside it the test driver and the contract part ways
    (listening on a closed port; closing while listening; the stale stop function of an earlier listener) -/
example : St.trace St.init [.openOut, .listen, .send 1] ≠ Spec.trace Spec.init [.openOut, .listen, .send 1] := by
  decide
example : St.trace St.init [.openOut, .openIn, .listen, .closeIn, .send 1]
    ≠ Spec.trace Spec.init [.openOut, .openIn, .listen, .closeIn, .send 1] := by decide
example : St.trace St.init [.openOut, .openIn, .listen, .stop 0, .listen, .stop 0, .send 1]
    ≠ Spec.trace Spec.init [.openOut, .openIn, .listen, .stop 0, .listen, .stop 0, .send 1] := by decide

/-- Open and close are idempotent, in every state (hence after every history, protocol-respecting or not):
    each of the four calls returns `ok`, makes no callback, leaves the port's `IsOpen()` as requested, and a
    second identical call changes nothing. -/
theorem open_close_idempotent (s : St) :
    (∀ op, op = Op.openIn ∨ op = Op.openOut ∨ op = Op.closeIn ∨ op = Op.closeOut →
      (s.exec op).2.res = .ok ∧ (s.exec op).2.calls = [] ∧
      (s.exec op).1.exec op = ((s.exec op).1, (s.exec op).2)) ∧
    (s.exec .openIn).1.inOpen = true ∧ (s.exec .closeIn).1.inOpen = false ∧
    (s.exec .openOut).1.outOpen = true ∧ (s.exec .closeOut).1.outOpen = false := by
  refine ⟨?_, rfl, rfl, rfl, rfl⟩
  intro op hop
  rcases hop with rfl | rfl | rfl | rfl <;> exact ⟨rfl, rfl, rfl⟩

/-- `Send` after any history whose last out-port open/close call is not an open (or that has none) returns
    the port-closed error, calls no listener and changes nothing. -/
theorem send_closed_err (pre : List Op) (n : Nat) (h : outOpenAfter pre = false) :
    (St.final St.init pre).exec (.send n) =
      (St.final St.init pre, ⟨.closed, [], (St.final St.init pre).inOpen, false⟩) := by
  simp [St.exec, St.step, outOpen_final, h]

example : outOpenAfter [.openOut, .openIn, .listen, .send 1, .closeOut, .closeOut, .openIn] = false := by decide

/-- After the `k`-th stop function has returned, listener `k` is never called again, whatever calls follow
    (any history before, any history after — no protocol assumption). -/
theorem no_call_after_stop (pre post : List Op) (k : Nat) (hk : k < countListens pre) :
    ∀ o ∈ St.trace (St.final St.init (pre ++ [.stop k])) post, ∀ c ∈ o.calls, c.1 ≠ k := by
  apply dead_trace
  have hk' : k < (St.final St.init pre).listens := by
    rw [listens_final_init]
    exact hk
  rw [St.final_append]
  simp only [St.final, St.exec, St.step]
  rw [if_pos hk']
  exact ⟨Or.inl rfl, hk'⟩

/-- the trace of the part after the stop call is the tail of the whole trace -/
theorem trace_split (pre post : List Op) (k : Nat) :
    St.trace St.init (pre ++ [.stop k] ++ post) =
      St.trace St.init (pre ++ [.stop k]) ++ St.trace (St.final St.init (pre ++ [.stop k])) post :=
  St.trace_append _ _ _

example : 0 < countListens [.openIn, .openOut, .listen, .send 1] := by decide

/-- Listening again works: after any history that leaves the out port open, `stop; Listen; Send n` delivers
    `n` exactly once, to the new listener (and to nobody else). -/
theorem relisten_works (pre : List Op) (k n : Nat) (h : outOpenAfter pre = true) :
    (St.trace (St.final St.init pre) [.stop k, .listen, .send n]).getLast? =
      some ⟨.ok, [(countListens pre, n)], (St.final St.init pre).inOpen, true⟩ := by
  have ho := (outOpen_final pre).trans h
  have hl := listens_final_init pre
  generalize St.final St.init pre = s at *
  obtain ⟨i, o, rd, st, m⟩ := s
  simp only at ho hl
  subst ho hl
  simp only [St.trace, St.exec, St.step]
  split <;> simp

example : outOpenAfter [.openOut, .openIn, .listen, .send 1] = true := by decide

/-! ## process-backed driver: lock discipline of `drivers/midicatdrv/{in,out}.go` as the source is now -/

/-- Every control path of every method and function literal of the process-backed ports is well nested:
    it never locks (or read-locks) a mutex it holds, never unlocks one it does not hold that way, never calls
    a method of the same port that takes a mutex held at the call, and holds nothing when it returns.  The
    table is re-read from the source on every run; `decide` evaluates the checker on the complete table
    (restoring the inner `o.Lock()` of DESIGN §7-16 in `fireCmd`'s start-failure path makes this fail). -/
theorem lockpaths_ok : checkAll Facts.lockPaths = true := by decide

/-- the table is not vacuous: both `fireCmd`s are in it with at least three paths each that take the port
    mutex (already running / helper cannot be started / started) -/
theorem lockpaths_cover :
    3 ≤ lockingPaths Facts.lockPaths Facts.lockPathsInFireCmd ∧
    3 ≤ lockingPaths Facts.lockPaths Facts.lockPathsOutFireCmd := by decide

/-- the checker does reject the double lock of §7-16 (Lock, Lock, Unlock, return) -/
example : checkPath [] [] [(0, 0), (0, 0), (1, 0), (5, 0)] = false := by decide
example : checkPath [] [] [(0, 0), (5, 0)] = false := by decide
example : checkPath [] [] [(1, 0), (5, 0)] = false := by decide
/-- calling a method that read-locks the port mutex while holding it -/
example : checkAll [(0, [[(0, 0), (4, 1), (1, 0), (5, 0)]]), (1, [[(2, 0), (3, 0), (5, 0)]])] = false := by decide

end Midi.C17
