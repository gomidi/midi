import Lean.Meta.Tactic.Simp.RegisterCommand
/-- the fixed part of every top-down evaluation of a translated body (`Proofs/GoSem.lean`) -/
register_simp_attr go_eval
