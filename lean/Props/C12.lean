import Proofs.Play
import MidiModel.Generated.Facts
/-!
# C12 — playback sends every playable event once, in file order, never early

Model: `MidiModel/Play.lean` (`TracksReader.Do`, the callback and the sort of `MultiPlay`, `Play`, the pacing
loop `t.play`, `Message.IsPlayable`). A file `f : FileIn` is, per track, the list of `(AbsMicroSeconds, bytes)` that
`Do` hands out; the absolute times are an input (they are the business of C11). `sel` is the track selection of
`ReadTracks*` (empty = all), `pm` the track → port map of `MultiPlay` (key `-1` = default port).
The model's `play f sel pm` is the sequence of `Send` calls (the slice after `sort.Stable`): `x.ev` says which event
(track, position in the track, time, bytes), `x.port` on which port; `schedule` is the pacing, the `time.Sleep` arguments.

Trusted, not proved: `sort.Stable` is a stable sort (the model sorts with `List.mergeSort`, whose result is the
stable sorted permutation); `time.Sleep d` does not return before `d` has elapsed (then
`schedule_nonneg_cumulative` is "never early").

All theorems hold for every file, selection and port map; `FileMono` (times non-decreasing inside each track,
C11 `timeAt_mono`) is needed only where the order inside a track is concerned, `InRange` (0 ≤ µs, and the
nanosecond value fits int64: about 292 years) only for the pacing.
-/
namespace Midi.C12
open Midi Midi.Play

/-- Exactly the playable events of the selected tracks that have a port (their own or the default), each once:
    the sends are pairwise different events, and an event `x.ev` is sent on `x.port` iff it sits in the file at
    position `x.ev.idx` of track `x.ev.track` with that time and those bytes, the track is selected, the message
    is playable and `x.port` is the port found for the track. No send is a meta event; every channel message of a
    selected track with a port is sent. -/
theorem play_perm (f : FileIn) (sel : List Int) (pm : PortMap) :
    (play f sel pm).Nodup ∧
    (∀ x : PlayEv, x ∈ play f sel pm ↔
      (doTrack sel x.ev.track = true ∧
        ∃ tr, f[x.ev.track]? = some tr ∧ tr[x.ev.idx]? = some (x.ev.time, x.ev.bytes)) ∧
      isPlayable x.ev.bytes = true ∧ outFor pm x.ev.track = some x.port) ∧
    (∀ x ∈ play f sel pm, x.ev.bytes.head? ≠ some 0xFF) ∧
    (∀ (k i : Nat) (tr : TrackIn) (t : Int) (st : Nat) (data : Bytes) (p : Nat),
      f[k]? = some tr → tr[i]? = some (t, st :: data) → 0x80 ≤ st → st ≤ 0xEF →
      doTrack sel k = true → outFor pm k = some p → ⟨⟨k, i, t, st :: data⟩, p⟩ ∈ play f sel pm) := by
  refine ⟨?_, mem_play f sel pm, ?_, ?_⟩
  · rw [(play_perm_collect f sel pm).nodup_iff]
    -- two sends of one track differ in their position
    refine (pairwise_idx_of_filter_track f sel pm _ fun _ => rfl).imp fun {a b} h hab => ?_
    subst hab
    exact Nat.lt_irrefl _ (h rfl)
  · intro x hx
    exact isPlayable_not_meta _ ((mem_play f sel pm x).1 hx).2.1
  · intro k i tr t st data p hk hi h1 h2 hs hp
    exact (mem_play f sel pm _).2 ⟨⟨hs, tr, hk, hi⟩, isPlayable_channel st data h1 h2, hp⟩

/-- Per-track order is preserved, also on shared ticks: the sends that belong to track `k` are, in this order,
    exactly the playable events of track `k` in file order (if the track is selected and has a port; none
    otherwise), all on the port found for the track; hence of two sends of one track the one earlier in the file
    leaves first. -/
theorem play_track_order (f : FileIn) (sel : List Int) (pm : PortMap) (hm : FileMono f) :
    (∀ (k : Nat) (tr : TrackIn), f[k]? = some tr →
      (play f sel pm).filter (fun x => x.ev.track == k) =
        match doTrack sel k, outFor pm k with
        | true, some p => ((enumFrom k 0 tr).filter (fun e => isPlayable e.bytes)).map (fun e => ⟨e, p⟩)
        | _, _ => []) ∧
    (play f sel pm).Pairwise (fun a b => a.ev.track = b.ev.track → a.ev.idx < b.ev.idx) := by
  constructor
  · intro k tr hk
    rw [play_filter_track f sel pm hm k, collect_filter_track, hk]
    rfl
  · exact pairwise_idx_of_filter_track f sel pm _ (play_filter_track f sel pm hm)

/-- Events of all tracks are merged by non-decreasing time. -/
theorem play_sorted (f : FileIn) (sel : List Int) (pm : PortMap) :
    (play f sel pm).Pairwise (fun a b => a.ev.time ≤ b.ev.time) := (mergeSort_stable _).1

/-- Each send goes to the port mapped to its track; a track without an entry goes to the default port (key -1);
    and a track with neither is not played at all. -/
theorem play_port (f : FileIn) (sel : List Int) (pm : PortMap) :
    (∀ x ∈ play f sel pm,
      (∀ o, pm.lookup (x.ev.track : Int) = some o → x.port = o) ∧
      (pm.lookup (x.ev.track : Int) = none → pm.lookup (-1) = some x.port)) ∧
    (∀ k : Nat, pm.lookup (k : Int) = none → pm.lookup (-1) = none → ∀ x ∈ play f sel pm, x.ev.track ≠ k) := by
  have hmem : ∀ x : PlayEv, x ∈ play f sel pm → outFor pm x.ev.track = some x.port :=
    fun x hx => ((mem_play f sel pm x).1 hx).2.2
  constructor
  · intro x hx
    have h := hmem x hx
    unfold outFor at h
    constructor
    · intro o ho; rw [ho] at h; simpa using h.symm
    · intro hn; rw [hn] at h; exact h
  · intro k h1 h2 x hx hk
    have h := hmem x hx
    rw [hk] at h
    simp [outFor, h1, h2] at h

/-- Pacing: the pacing loop calls `time.Sleep` once before each send; every argument is ≥ 0 (no clamping is
    relied upon) and the sleeps before and up to send `i` add up to exactly the scheduled time of its event
    (in ns). So if no `Sleep` returns early, send `i` happens no earlier than its scheduled time after the start
    of the loop. -/
theorem schedule_nonneg_cumulative (f : FileIn) (sel : List Int) (pm : PortMap)
    (hr : ∀ tr ∈ f, ∀ e ∈ tr, InRange e.1) :
    (schedule (play f sel pm)).length = (play f sel pm).length ∧
    (∀ s ∈ schedule (play f sel pm), 0 ≤ s) ∧
    ∀ (i : Nat) (h : i < (play f sel pm).length),
      ((schedule (play f sel pm)).take (i + 1)).sum = 1000 * ((play f sel pm)[i]).ev.time := by
  have h0 : InRange 0 := by unfold InRange; omega
  have hrange : ∀ p ∈ play f sel pm, InRange p.ev.time ∧ (0 : Int) ≤ p.ev.time := by
    intro p hp
    obtain ⟨⟨_, tr, h1, h2⟩, _⟩ := (mem_play f sel pm p).1 hp
    have := hr tr (List.mem_of_getElem? h1) _ (List.mem_of_getElem? h2)
    exact ⟨this, this.1⟩
  have := sleeps_spec (play f sel pm) 0 h0 hrange (play_sorted f sel pm)
  refine ⟨sleeps_length _ _, ?_, ?_⟩
  · simpa [schedule] using this.1
  · intro i hi
    have := this.2 i hi
    simpa [schedule] using this

/-- `MultiPlay` with an empty port map and `Play` with a port that cannot be opened send nothing;
    `Play(out)` is `MultiPlay` with `out` as the default port. -/
theorem error_sends_nothing (f : FileIn) (sel : List Int) (p : Nat) :
    multiPlay f sel [] = none ∧ playOne f sel true p = none ∧
    playOne f sel false p = some (play f sel [(-1, p)]) := by
  simp [multiPlay, playOne]

/-- The trusted assumption about `sort.Stable`, made exact: *any* rearrangement `out` of the collected events
    that is sorted by time and keeps, for every time value, the events of that instant in collection order (that
    is what "stable sort" promises) is the model's send sequence. So nothing about the algorithm inside
    `sort.Stable` is assumed beyond stability. -/
theorem play_is_the_stable_sort (f : FileIn) (sel : List Int) (pm : PortMap) (out : List PlayEv)
    (h : StableSortOf (fun x => x.ev.time) (collect f sel pm) out) : out = play f sel pm :=
  have hm := mergeSort_stable (collect f sel pm)
  List.eq_of_filter_key_eq _ _ _ h.1 hm.1 fun k => (h.2 k).trans (hm.2 k).symm

/-- its hypothesis at a sample: two tracks that share the time 5 -/
example : StableSortOf (fun x => x.ev.time) (collect [[(5, [0x90, 1, 1])], [(2, [0x91, 2, 2]), (5, [0x91, 1, 1])]] [] [(-1, 0)])
    [⟨⟨1, 0, 2, [0x91, 2, 2]⟩, 0⟩, ⟨⟨0, 0, 5, [0x90, 1, 1]⟩, 0⟩, ⟨⟨1, 1, 5, [0x91, 1, 1]⟩, 0⟩] := by
  constructor
  · decide
  · intro k
    by_cases h5 : k = 5
    · subst h5; decide
    · by_cases h2 : k = 2
      · subst h2; decide
      · have e5 : ((5 : Int) == k) = false := by simp; omega
        have e2 : ((2 : Int) == k) = false := by simp; omega
        simp [collect, doAll, doFrom, doTrack, enumFrom, collectOne, isPlayable, isMeta, typeKnown, outFor, List.lookup, e5, e2]

/-! ## facts re-read from the code on every run -/

/-- `MultiPlay` calls `sort.Stable` and nothing else of package `sort` (go/parser on v2/smf/track.go);
    switching back to `sort.Sort` breaks this obligation. -/
theorem multiplay_uses_stable_sort : Facts.multiPlaySortCalls = ["Stable"] := by decide

/-- `player.Less` is the strict comparison of the time keys, which is what makes events of one instant
    "equal" for the stable sort (`≤` here would let `sort.Stable` move them past each other). -/
theorem player_less_is_strict : Facts.playerLess = "p;a,b;p[a].absTime < p[b].absTime" := by decide

/-- `playableByte` — what the model's `isPlayable` makes of a first byte (`Play.isPlayable_eq`) — agrees with the
    compiled library's `IsPlayable` on every first byte (the library's answer depends on nothing else), and
    `isPlayable` on the empty message. -/
theorem playable_table :
    (List.range 256).map playableByte = Facts.playableFirstByte ∧ isPlayable [] = Facts.playableEmpty := by
  decide +kernel

/-! ## non-vacuity -/

/-- two tracks, 2 × 7 channel messages at time 100 after events at 0, a tempo and a text meta event mixed in -/
def sampleFile : FileIn :=
  [ [(0, [0xFF, 0x51, 0x03, 0x07, 0xA1, 0x20]), (0, [0xB0, 0, 1]), (100, [0xB0, 32, 0]), (100, [0xC0, 5]),
     (100, [0x90, 60, 64]), (100, [0x90, 64, 64]), (100, [0x90, 67, 64]), (100, [0x80, 60, 0]), (100, [0x80, 64, 0]),
     (250, [0xFF, 0x2F, 0x00])],
    [(0, [0x91, 40, 1]), (100, [0xFF, 0x01, 0x01, 0x41]), (100, [0x91, 41, 1]), (100, [0x91, 42, 1]), (100, [0x91, 43, 1]),
     (100, [0x91, 44, 1]), (100, [0x91, 45, 1]), (100, [0x91, 46, 1]), (100, [0x91, 47, 1]), (100, [0xF0, 0x7E, 0xF7]),
     (180, [0x81, 40, 0]), (180, [0xFF, 0x2F, 0x00])] ]

example : FileMono sampleFile := by
  intro tr htr
  simp only [sampleFile, List.mem_cons, List.mem_nil_iff, or_false] at htr
  rcases htr with rfl | rfl <;> decide

example : ∀ tr ∈ sampleFile, ∀ e ∈ tr, InRange e.1 := by
  simp only [InRange]
  decide

/-- before the sort: 17 collected events (no meta, no sysex), 14 of them share the time key 100 and the
    concatenation is not sorted (track 0's events at 100 come before track 1's event at 0) -/
example : (collect sampleFile [] [(1, 7), (-1, 3)]).map (fun x => (x.ev.track, x.ev.idx, x.ev.time, x.port)) =
    [(0, 1, 0, 3), (0, 2, 100, 3), (0, 3, 100, 3), (0, 4, 100, 3), (0, 5, 100, 3), (0, 6, 100, 3), (0, 7, 100, 3),
     (0, 8, 100, 3), (1, 0, 0, 7), (1, 2, 100, 7), (1, 3, 100, 7), (1, 4, 100, 7), (1, 5, 100, 7), (1, 6, 100, 7),
     (1, 7, 100, 7), (1, 8, 100, 7), (1, 10, 180, 7)] := by decide +kernel

/-! Tests (evaluated by the interpreter, *not* proofs; `List.mergeSort` is defined by well-founded recursion and
    does not reduce in the kernel): the executable model on the sample — track 1 on port 7, track 0 on the
    default port 3, the sleeps of track 1 played alone. -/
#guard (play sampleFile [] [(1, 7), (-1, 3)]).map (fun x => (x.ev.track, x.ev.idx, x.port)) ==
    [(0, 1, 3), (1, 0, 7), (0, 2, 3), (0, 3, 3), (0, 4, 3), (0, 5, 3), (0, 6, 3), (0, 7, 3), (0, 8, 3),
     (1, 2, 7), (1, 3, 7), (1, 4, 7), (1, 5, 7), (1, 6, 7), (1, 7, 7), (1, 8, 7), (1, 10, 7)]
#guard schedule (play sampleFile [1] [(1, 7)]) == [0, 100000, 0, 0, 0, 0, 0, 0, 80000]

end Midi.C12
