import MidiModel.Smf
/-! C10 (write side): `WriteTo` on a destination that fails after `k` bytes. What it accepted is the first `k` bytes of the
    file, and the call reports an error unless that is the whole file. -/
namespace Midi.Smf

theorem writeToSink_of_ok {rsOn : Bool} {s : File} {w : Bytes} (h : writeTo rsOn s = .ok w) (failAt : Option Nat) :
    ∃ cs, cs.flatten = w ∧ writeToSink rsOn s failAt = some (writeToSink.go failAt true [] cs) := by
  unfold writeTo at h
  unfold writeToSink
  by_cases hz : s.tracks.length % 65536 = 0
  · simp [hz] at h
  · cases hcs : writeCalls rsOn s with
    | none => simp [hz, hcs] at h
    | some cs =>
      rw [if_neg hz, hcs] at h
      exact ⟨cs, WRes.ok.inj h, by rw [if_neg hz]⟩

theorem sink_go_none : ∀ (cs : List Bytes) (first : Bool) (acc : Bytes),
    writeToSink.go none first acc cs = (false, (acc ++ cs.flatten).length, acc ++ cs.flatten) := by
  intro cs
  induction cs with
  | nil => intro first acc; simp [writeToSink.go]
  | cons c r ih => intro first acc; simp [writeToSink.go, ih]

/-- a destination that fails after `k` bytes holds the first `k` bytes of what was to be written; no error and the full
    size iff that is everything -/
theorem sink_go_some (k : Nat) : ∀ (cs : List Bytes) (first : Bool) (acc : Bytes), acc.length ≤ k →
    (writeToSink.go (some k) first acc cs).2.2 = (acc ++ cs.flatten).take k ∧
    (writeToSink.go (some k) first acc cs).1 = decide (k < (acc ++ cs.flatten).length) ∧
    ((acc ++ cs.flatten).length ≤ k → (writeToSink.go (some k) first acc cs).2.1 = (acc ++ cs.flatten).length) := by
  intro cs
  induction cs with
  | nil =>
    intro first acc h
    simp [writeToSink.go, List.take_of_length_le h]
    omega
  | cons c r ih =>
    intro first acc h
    simp only [writeToSink.go, List.flatten_cons]
    by_cases hc : acc.length + c.length ≤ k
    · simpa only [hc, if_true, List.append_assoc] using ih false (acc ++ c) (by simp; omega)
    · -- the write of `c` is cut short: what follows `c` is beyond the first `k` bytes
      simp only [hc, if_false, List.length_append]
      refine ⟨?_, by simp; omega, by omega⟩
      have : k - acc.length - c.length = 0 := by omega
      rw [List.take_append, List.take_of_length_le h, List.take_append, this, List.take_zero, List.append_nil]

theorem writeToSink_none {rsOn : Bool} {s : File} {w : Bytes} (h : writeTo rsOn s = .ok w) :
    writeToSink rsOn s none = some (false, w.length, w) := by
  obtain ⟨cs, rfl, hc⟩ := writeToSink_of_ok h none
  rw [hc, sink_go_none]
  rfl

theorem writeToSink_some {rsOn : Bool} {s : File} {w : Bytes} (h : writeTo rsOn s = .ok w) (k : Nat) :
    ∃ size, writeToSink rsOn s (some k) = some (decide (k < w.length), size, w.take k) ∧
      (w.length ≤ k → size = w.length) := by
  obtain ⟨cs, rfl, hc⟩ := writeToSink_of_ok h (some k)
  obtain ⟨ha, he, hs⟩ := sink_go_some k cs true [] (Nat.zero_le k)
  rw [List.nil_append] at ha he hs
  exact ⟨_, by rw [hc, ← ha, ← he], hs⟩

theorem writeToSink_some_inv {rsOn : Bool} {s : File} {w : Bytes} (hw : writeTo rsOn s = .ok w) {k : Nat} {e : Bool}
    {size : Nat} {acc : Bytes} (h : writeToSink rsOn s (some k) = some (e, size, acc)) :
    e = decide (k < w.length) ∧ acc = w.take k ∧ (w.length ≤ k → size = w.length) := by
  obtain ⟨size', h', hs⟩ := writeToSink_some hw k
  rw [h] at h'
  simp only [Option.some.injEq, Prod.mk.injEq] at h'
  obtain ⟨rfl, rfl, rfl⟩ := h'
  exact ⟨rfl, rfl, hs⟩

/-- no error from the destination: no track-less value, no panic -/
theorem writeTo_of_sink {rsOn : Bool} {s : File} {failAt : Option Nat} {size : Nat} {acc : Bytes}
    (h : writeToSink rsOn s failAt = some (false, size, acc)) : ∃ w, writeTo rsOn s = .ok w := by
  unfold writeToSink at h
  unfold writeTo
  by_cases hz : s.tracks.length % 65536 = 0
  · simp [hz] at h
  · cases hcs : writeCalls rsOn s with
    | none => simp [hz, hcs] at h
    | some cs => exact ⟨cs.flatten, by rw [if_neg hz]⟩

end Midi.Smf
