import Proofs.GoLoopsNested
/-!
# Translated loops of the shape `for _ in [0:Go.loopFuel] do if ¬cond then break; body`

A loop whose body is a step function is `iter` (pure step) or `iterM` (a step that may throw): at most `fuel` steps while
the condition holds. Once the condition fails more fuel changes nothing: a loop known to stop after `k ≤ fuel` steps is
computed with fuel `k` (`iter_of_stop`).
-/
namespace Go

def iter {σ : Type} (c : σ → Prop) [DecidablePred c] (step : σ → σ) : Nat → σ → σ
  | 0, s => s
  | f + 1, s => if c s then iter c step f (step s) else s

theorem iter_stop {σ : Type} (c : σ → Prop) [DecidablePred c] (step : σ → σ) (f : Nat) (s : σ) (h : ¬ c s) : iter c step f s = s := by
  cases f <;> simp [iter, h]

theorem iter_add {σ : Type} (c : σ → Prop) [DecidablePred c] (step : σ → σ) (g : Nat) :
    ∀ (k : Nat) (s : σ), iter c step (k + g) s = iter c step g (iter c step k s) := by
  intro k
  induction k with
  | zero =>
    intro s
    rw [Nat.zero_add]
    rfl
  | succ k ih =>
    intro s
    rw [show k + 1 + g = (k + g) + 1 by omega]
    simp only [iter]
    split
    · exact ih _
    · next hc => exact (iter_stop c step g s hc).symm

theorem iter_add_of_stop {σ : Type} (c : σ → Prop) [DecidablePred c] (step : σ → σ) :
    ∀ (k g : Nat) (s : σ), ¬ c (iter c step k s) → iter c step (k + g) s = iter c step k s :=
  fun k g s h => (iter_add c step g k s).trans (iter_stop c step g _ h)

theorem iter_of_stop {σ : Type} (c : σ → Prop) [DecidablePred c] (step : σ → σ) {k fuel : Nat} {s : σ} (hk : k ≤ fuel)
    (h : ¬ c (iter c step k s)) : iter c step fuel s = iter c step k s := by
  obtain ⟨g, rfl⟩ := Nat.exists_eq_add_of_le hk
  exact iter_add_of_stop c step k g s h

theorem forIn_range_while {σ : Type} (c : σ → Prop) [DecidablePred c] (step : σ → σ) (fuel : Nat) (s : σ) :
    (forIn [:fuel] s (fun _ (st : σ) =>
        if ¬ c st then (pure (ForInStep.done st) : Except String (ForInStep σ))
        else pure (ForInStep.yield (step st)))) = (pure (iter c step fuel s) : Except String σ) := by
  rw [forIn_range_loopF]
  induction fuel generalizing s with
  | zero => rfl
  | succ n ih =>
    by_cases hc : c s
    · rw [loopF_yield n (pure (step s)) id (by simp [hc]), pure_bind, iter, if_pos hc]
      exact ih _
    · rw [loopF_done (b := s) n (by simp [hc]), iter, if_neg hc]

/-- the same with a body that may throw (index expressions) -/
def iterM {σ : Type} (c : σ → Prop) [DecidablePred c] (step : σ → Except String σ) : Nat → σ → Except String σ
  | 0, s => pure s
  | f + 1, s => if c s then step s >>= iterM c step f else pure s

theorem iterM_stop {σ : Type} (c : σ → Prop) [DecidablePred c] (step : σ → Except String σ) (f : Nat) (s : σ)
    (h : ¬ c s) : iterM c step f s = pure s := by
  cases f with
  | zero => rfl
  | succ f => simp only [iterM, h, if_false]

theorem iterM_add {σ : Type} (c : σ → Prop) [DecidablePred c] (step : σ → Except String σ) (k f : Nat) :
    ∀ s : σ, iterM c step (k + f) s = iterM c step k s >>= iterM c step f := by
  induction k with
  | zero => intro s; simp only [Nat.zero_add, iterM]; rfl
  | succ k ih =>
    intro s
    rw [show k + 1 + f = (k + f) + 1 by omega]
    simp only [iterM]
    by_cases hc : c s
    · simp only [hc, if_true]
      cases step s with
      | error e => rfl
      | ok s' => exact ih s'
    · simp only [hc, if_false]
      exact (iterM_stop c step f s hc).symm

theorem forIn_range_whileM {σ : Type} (c : σ → Prop) [DecidablePred c] (step : σ → Except String σ) (fuel : Nat) (s : σ) :
    (forIn [:fuel] s (fun _ (st : σ) =>
        if ¬ c st then (pure (ForInStep.done st) : Except String (ForInStep σ))
        else ForInStep.yield <$> step st)) = iterM c step fuel s := by
  rw [forIn_range_loopF]
  induction fuel generalizing s with
  | zero => rfl
  | succ n ih =>
    by_cases hc : c s
    · rw [loopF_yield n (step s) id (by simp [hc]), iterM, if_pos hc]
      congr 1
      funext s'
      exact ih s'
    · rw [loopF_done (b := s) n (by simp [hc]), iterM, if_neg hc]

end Go
