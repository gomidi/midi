import Proofs.SequencerLayout
/-!
# C20 helper lemmas: from a tick-ordered event list to a track, and what can be read off that track

Every exported track is made the same way: `Add` the events in tick order with `uint32` differences as
deltas, then `Close` at the end of the song.  `emitTrack` names that; the loops of the model
(`addWithDeltas`, `addTrackNo`, the header `Add(0, …)`s) are instances.
-/
namespace Midi.Sequencer
open Midi Midi.Smf

def emitTrack (l : List TEv) (L : Nat) : Track := (addAll [] 0 l).1.close (u32sub L (addAll [] 0 l).2)

/-- header text events seen as events at tick 0 -/
def hdrEvs (hdr : List Msg) : List TEv := hdr.map (fun m => ⟨0, 0, m, 0⟩)

theorem addAll_hdr (t : Track) (m : Msg) (l : List TEv) :
    addAll (t.add 0 [m]) 0 l = addAll t 0 (⟨0, 0, m, 0⟩ :: l) := rfl

theorem addWithDeltas_setDeltas : ∀ (l : List TEv) (t : Track) (last : Nat),
    addWithDeltas t last (setDeltas last l) = addAll t last l
  | [], _, _ => rfl
  | e :: r, t, last => by
    simp only [setDeltas, addWithDeltas, addAll]
    exact addWithDeltas_setDeltas r _ _

theorem addTrackNo_eq (n : Nat) : ∀ (l : List TEv) (t : Track) (last : Nat),
    addTrackNo n t last l = addAll t last (l.filter (fun e => e.trackNo = n))
  | [], _, _ => rfl
  | e :: r, t, last => by
    by_cases h : e.trackNo = n
    · simp only [addTrackNo, h, if_true, List.filter_cons, decide_true, addAll]
      exact addTrackNo_eq n r _ _
    · simp only [addTrackNo, h, if_false, List.filter_cons, decide_false]
      exact addTrackNo_eq n r _ _

/-- the deltas are the `uint32` differences, exact below `2^32` -/
theorem addAll_close (L : Nat) (hL : L < 4294967296) : ∀ (l : List TEv) (t : Track) (last : Nat),
    t.isClosed = false → last ≤ L → l.Pairwise (fun a b => a.abs ≤ b.abs) →
    (∀ e ∈ l, last ≤ e.abs ∧ e.abs ≤ L ∧ isEOT (tm e) = false) →
    ∃ body, (addAll t last l).1.close (u32sub L (addAll t last l).2) = t ++ body ∧
      timeline last body = l.map tm ++ [(L, EOT)]
  | [], t, last, ho, hl, _, _ =>
    ⟨[⟨L - last, EOT⟩], by simp [addAll, Track.close, ho, u32sub_eq hl hL], by simp [timeline]; omega⟩
  | e :: r, t, last, ho, _, hs, hg => by
    obtain ⟨h1, h2, h3⟩ := hg e (by simp)
    rw [List.pairwise_cons] at hs
    -- `Add` does nothing on a closed track: the track has to stay open, so no event may be an end of track
    have ho' : Track.isClosed (t ++ [⟨e.abs - last, e.msg⟩]) = false := by simpa [Track.isClosed, isEOT, tm] using h3
    obtain ⟨body, hb1, hb2⟩ := addAll_close L hL r _ e.abs ho' h2 hs.2
      (fun x hx => ⟨hs.1 x hx, (hg x (by simp [hx])).2⟩)
    refine ⟨⟨e.abs - last, e.msg⟩ :: body, ?_, ?_⟩
    · simpa [addAll, Track.add, ho, addEvents, u32sub_eq h1 (Nat.lt_of_le_of_lt h2 hL)] using hb1
    · simp only [timeline, Nat.add_sub_cancel' h1, hb2, List.map_cons, List.cons_append]; rfl

/-- a track seen as absolute ticks: the text events `hdr` at tick 0 (neither channel message nor time
    signature nor end of track), a tick-ordered body without end of track that is a permutation of `want`,
    the end of track at tick `E` -/
def Shape (tr : Track) (hdr : List Msg) (want : List (Nat × Msg)) (E : Nat) : Prop :=
  ∃ body, timeline 0 tr = hdr.map (fun m => (0, m)) ++ body ++ [(E, EOT)] ∧ body.Perm want ∧
    body.Pairwise (fun a b => a.1 ≤ b.1) ∧
    (∀ m ∈ hdr, isEvent (0, m) = false ∧ isMeter (0, m) = false ∧ isEOT (0, m) = false) ∧
    ∀ x ∈ body, isEOT x = false

theorem emitTrack_shape (hdr : List Msg) (l : List TEv) (want : List (Nat × Msg)) (L : Nat)
    (hL : L < 4294967296) (hh : ∀ m ∈ hdr, isEvent (0, m) = false ∧ isMeter (0, m) = false ∧ isEOT (0, m) = false)
    (hs : l.Pairwise (fun a b => a.abs ≤ b.abs)) (hp : (l.map tm).Perm want)
    (hg : ∀ x ∈ want, x.1 ≤ L ∧ isEOT x = false) :
    Shape (emitTrack (hdrEvs hdr ++ l) L) hdr want L := by
  have hz : ∀ e ∈ hdrEvs hdr, e.abs = 0 ∧ isEOT (tm e) = false := by
    intro e he
    obtain ⟨m, hm, rfl⟩ := List.mem_map.1 he
    exact ⟨rfl, (hh m hm).2.2⟩
  have h0 : ∀ e ∈ hdrEvs hdr, ∀ n, e.abs ≤ n := fun e he n => (hz e he).1 ▸ Nat.zero_le n
  obtain ⟨body, h1, h2⟩ := addAll_close L hL (hdrEvs hdr ++ l) [] 0 rfl (Nat.zero_le _)
    (List.pairwise_append.2 ⟨List.pairwise_of_forall_mem_list fun a ha b _ => h0 a ha _, hs, fun a ha b _ => h0 a ha _⟩)
    (fun e he => by
      rcases List.mem_append.1 he with he | he
      · exact ⟨Nat.zero_le _, h0 e he _, (hz e he).2⟩
      · exact ⟨Nat.zero_le _, hg _ (hp.mem_iff.1 (List.mem_map_of_mem he))⟩)
  refine ⟨l.map tm, ?_, hp, List.pairwise_map.2 hs, hh, fun x hx => (hg x (hp.mem_iff.1 hx)).2⟩
  rw [emitTrack, h1, List.nil_append, h2, List.map_append, hdrEvs, List.map_map]
  rfl

section
variable {tr : Track} {hdr : List Msg} {want : List (Nat × Msg)} {E : Nat} (h : Shape tr hdr want E)
include h

theorem shape_mem {x : Nat × Msg} (hx : x ∈ want) : x ∈ timeline 0 tr := by
  obtain ⟨body, h1, h2, _⟩ := h
  rw [h1]
  exact List.mem_append_left _ (List.mem_append_right _ (h2.mem_iff.2 hx))

theorem shape_filter (p : Nat × Msg → Bool) (hp : ∀ x, p x = true → isEvent x = true ∨ isMeter x = true) :
    ((timeline 0 tr).filter p).Perm (want.filter p) ∧
    ((timeline 0 tr).filter p).Pairwise (fun a b => a.1 ≤ b.1) := by
  obtain ⟨body, h1, h2, h3, h4, _⟩ := h
  have hn : ∀ x, isEvent x = false → isMeter x = false → p x = false := fun x he hm =>
    Bool.eq_false_iff.2 fun hx => by rcases hp x hx with h | h <;> simp [he, hm] at h
  have he : p (E, EOT) = false := hn _ (by simp [isEvent, EOT, isChanStatus]) (by simp [isMeter, EOT])
  have : (timeline 0 tr).filter p = body.filter p := by
    rw [h1, List.filter_append, List.filter_append, List.filter_eq_nil_iff.2 (fun x hx => by
      obtain ⟨m, hm, rfl⟩ := List.mem_map.1 hx
      simp [hn _ (h4 m hm).1 (h4 m hm).2.1])]
    simp [he]
  rw [this]
  exact ⟨h2.filter p, h3.filter p⟩

theorem shape_eot : (timeline 0 tr).getLast? = some (E, EOT) ∧ (timeline 0 tr).filter isEOT = [(E, EOT)] := by
  obtain ⟨body, h1, _, _, h4, h5⟩ := h
  rw [h1]
  refine ⟨List.getLast?_concat, ?_⟩
  rw [List.filter_append, List.filter_append,
    List.filter_eq_nil_iff.2 (fun x hx => by obtain ⟨m, hm, rfl⟩ := List.mem_map.1 hx; simp [(h4 m hm).2.2]),
    List.filter_eq_nil_iff.2 (fun x hx => by simp [h5 x hx])]
  simp [isEOT]

end

/-- with `shape_filter`: where the wanted events that pass come at strictly increasing ticks, the filtered
    track is that list -/
theorem perm_strict_eq (l₁ l₂ : List (Nat × Msg)) (h : l₁.Perm l₂)
    (h1 : l₁.Pairwise (fun a b => a.1 ≤ b.1)) (h2 : l₂.Pairwise (fun a b => a.1 < b.1)) : l₁ = l₂ := by
  have hne : l₁.Pairwise (fun a b => a.1 ≠ b.1) := (h.pairwise_iff Ne.symm).2 (h2.imp Nat.ne_of_lt)
  exact h.eq_of_pairwise (le := fun a b => a.1 < b.1) (fun _ _ _ _ h1 h2 => absurd h1 (Nat.lt_asymm h2))
    ((h1.and hne).imp (fun h => Nat.lt_of_le_of_ne h.1 h.2)) h2

end Midi.Sequencer
