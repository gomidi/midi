import MidiModel.Generated.StateShape
import Proofs.StateShapeExpected
/-!
# C17, tie to the source: the state the code keeps has the shape the model assumes
(the packages this property's models read; the comparison is explained in `Props/C01_State.lean`)
-/
namespace Midi.C17
theorem code_state_shape_drivers : Midi.StateShape.drivers = Midi.StateShapeExpected.drivers := rfl
theorem code_state_shape_drivers_testdrv : Midi.StateShape.drivers_testdrv = Midi.StateShapeExpected.drivers_testdrv := rfl
theorem code_state_shape_drivers_midicatdrv : Midi.StateShape.drivers_midicatdrv = Midi.StateShapeExpected.drivers_midicatdrv := rfl
end Midi.C17
