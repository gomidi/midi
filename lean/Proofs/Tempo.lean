import MidiModel.Tempo
/-!
# Helper lemmas for C11: `calcAbs`/`timeAt` on a sorted tempo map are a left-to-right fold

`calcSimple`/`timeSimple` are proof devices: folds over the map whose state is the last visited entry (a `Tc`; before
the first entry the virtual entry `tc0` = tick 0, time 0, 120 BPM, so that the `nil` of the Go lookups needs no case
of its own). `calcLoop_eq`: the code-shaped `calcLoop` (whole-slice lookups at `tick-1`) computes `calcSimple` when
the slice is non-decreasing in the tick; `tca_calcSimple`: `timeAt` on the entries `calcSimple` made is `timeSimple`,
whatever the order.
-/
namespace Midi.Tempo

/-- `a`: the tick of the entry before -/
def SortedFrom : Nat → Map → Prop
  | _, [] => True
  | a, p :: r => a ≤ p.1 ∧ SortedFrom p.1 r

theorem SortedFrom.mono {a b : Nat} {m : Map} (h : SortedFrom a m) (hb : b ≤ a) : SortedFrom b m := by
  cases m with
  | nil => trivial
  | cons p r => exact ⟨Nat.le_trans hb h.1, h.2⟩

theorem isSorted_iff (m : Map) : isSorted m = true ↔ SortedFrom 0 m := by
  suffices h : ∀ (p : Nat × Nat) (r : Map), isSorted (p :: r) = true ↔ SortedFrom p.1 r by
    cases m with
    | nil => simp [isSorted, SortedFrom]
    | cons p r => rw [h]; simp [SortedFrom]
  intro p r
  induction r generalizing p with
  | nil => simp [isSorted, SortedFrom]
  | cons b r ih => simp [isSorted, SortedFrom, ih]

def tc0 : Tc := ⟨0, 0, defaultU⟩

/-- the tick count the code hands to `duration64`, `tk` of an `Int` difference, is the truncated difference of the
    naturals (`Int.toNat_sub`) -/
def seg (dur : Nat → Nat → Nat) (s : Tc) (t : Nat) : Nat := s.time + dur s.u (t - s.tick)

/-- the entry `calculateAbsTimes` makes of `(tick, u)` when the entry before it is `s`: a tick reached again keeps
    the time (the `diffTicks == 0` branch, no `dur` call) -/
def next (dur : Nat → Nat → Nat) (s : Tc) (p : Nat × Nat) : Tc :=
  ⟨p.1, if p.1 = s.tick then s.time else seg dur s p.1, p.2⟩

theorem next_tick (dur : Nat → Nat → Nat) (s : Tc) (p : Nat × Nat) : (next dur s p).tick = p.1 := rfl
theorem next_u (dur : Nat → Nat → Nat) (s : Tc) (p : Nat × Nat) : (next dur s p).u = p.2 := rfl

def calcSimple (dur : Nat → Nat → Nat) : Tc → Map → List Tc
  | _, [] => []
  | s, p :: r => next dur s p :: calcSimple dur (next dur s p) r

def timeSimple (dur : Nat → Nat → Nat) : Tc → Map → Nat → Nat
  | s, [], t => seg dur s t
  | s, p :: r, t => if t ≤ p.1 then seg dur s t else timeSimple dur (next dur s p) r t

/-- invariant of the loop of `calculateAbsTimes` over the visited prefix `pre`: it is what makes the lookups at `tick-1`,
    which search the whole slice, find the entry visited last -/
def Last (pre : List Tc) (s : Tc) : Prop := pre.getLast?.getD tc0 = s ∧ ∀ e ∈ pre, e.tick ≤ s.tick

theorem Last.nil : Last [] tc0 := ⟨rfl, by simp⟩

theorem Last.snoc {pre : List Tc} {s : Tc} (h : Last pre s) (n : Tc) (hn : s.tick ≤ n.tick) :
    Last (pre ++ [n]) n := by
  refine ⟨by simp, fun e he => ?_⟩
  rcases List.mem_append.1 he with he | he
  · exact Nat.le_trans (h.2 e he) hn
  · rw [List.mem_singleton.1 he]
    exact Nat.le_refl _

theorem tcaLoop_append (p s : List Tc) (t : Int) (acc : Option Tc) (h : ∀ e ∈ p, (e.tick : Int) ≤ t) :
    tcaLoop (p ++ s) t acc = tcaLoop s t (p.getLast?.or acc) := by
  induction p generalizing acc with
  | nil => rfl
  | cons x p ih =>
    have hx : ¬ ((x.tick : Int) > t) := Int.not_lt.2 (h x List.mem_cons_self)
    rw [List.cons_append, tcaLoop, if_neg hx, ih _ fun e he => h e (List.mem_cons_of_mem _ he), List.getLast?_cons]
    cases p.getLast? <;> rfl

theorem timeAt_eq_seg (dur : Nat → Nat → Nat) (l : List Tc) (t : Nat) :
    timeAt dur l t = seg dur ((tempoChangeAt l ((t : Int) - 1)).getD tc0) t := by
  unfold timeAt seg
  cases tempoChangeAt l ((t : Int) - 1) <;> simp [tc0, tk]

/-- the lookup at `t - 1` walks the entries the fold has made the way `timeSimple` walks the map: no order is needed -/
theorem tca_calcSimple (dur : Nat → Nat → Nat) (t : Nat) (r : Map) (s : Tc) (acc : Option Tc) (h : acc.getD tc0 = s) :
    seg dur ((tcaLoop (calcSimple dur s r) ((t : Int) - 1) acc).getD tc0) t = timeSimple dur s r t := by
  induction r generalizing s acc with
  | nil => rw [calcSimple, tcaLoop, h, timeSimple]
  | cons p r ih =>
    rw [calcSimple, tcaLoop, timeSimple, next_tick]
    by_cases htp : t ≤ p.1
    · rw [if_pos htp, if_pos (by omega), h]
    · rw [if_neg htp, if_neg (by omega)]
      exact ih _ _ rfl

theorem calcLoop_cons (dur : Nat → Nat → Nat) {pre : List Tc} {s : Tc} (hi : Last pre s) (tc : Tc) (rest : List Tc)
    (h : s.tick ≤ tc.tick) :
    calcLoop dur pre (tc :: rest) s.tick s.time =
      calcLoop dur (pre ++ [next dur s (tc.tick, tc.u)]) rest tc.tick (next dur s (tc.tick, tc.u)).time := by
  simp only [calcLoop, next]
  by_cases hpa : tc.tick = s.tick
  · simp [hpa]
  · -- both lookups at `tc.tick - 1` pass `pre` and stop at `tc`: they find `s`, `nil` standing for `tc0`
    have hlook : (tempoChangeAt (pre ++ tc :: rest) ((tc.tick : Int) - 1)).getD tc0 = s := by
      rw [tempoChangeAt, tcaLoop_append _ _ _ _ (fun e he => by have := hi.2 e he; omega), tcaLoop,
        if_pos (by omega), ← hi.1]
      cases pre.getLast? <;> rfl
    have hd : ¬ ((tc.tick : Int) - s.tick = 0) := by omega
    simp only [hd, hpa, if_false, tempoAt, seg, tk, Int.toNat_sub]
    generalize tempoChangeAt (pre ++ tc :: rest) ((tc.tick : Int) - 1) = o at hlook
    subst hlook
    cases o <;> rfl

theorem calcLoop_eq (dur : Nat → Nat → Nat) (post : Map) (pre : List Tc) (s : Tc)
    (hi : Last pre s) (hs : SortedFrom s.tick post) :
    calcLoop dur pre (ofMap post) s.tick s.time = pre ++ calcSimple dur s post := by
  induction post generalizing pre s with
  | nil => simp [ofMap, calcLoop, calcSimple]
  | cons p r ih =>
    rw [ofMap, List.map_cons, calcLoop_cons dur hi _ _ hs.1]
    exact (ih _ _ (hi.snoc (next dur s p) hs.1) hs.2).trans (by simp [calcSimple])

theorem insertTc_sorted (a : Nat × Nat) (m : Map) (b : Nat) (hm : SortedFrom b m) (hb : b ≤ a.1) :
    SortedFrom b (insertTc a m) := by
  induction m generalizing b with
  | nil => exact ⟨hb, trivial⟩
  | cons c r ih =>
    simp only [insertTc]
    by_cases h : a.1 ≤ c.1
    · simp only [h, if_true]; exact ⟨hb, h, hm.2⟩
    · simp only [h, if_false]; exact ⟨hm.1, ih _ hm.2 (by omega)⟩

theorem sortTc_sorted (m : Map) : SortedFrom 0 (sortTc m) := by
  induction m with
  | nil => trivial
  | cons a r ih => exact insertTc_sorted a _ 0 ih (Nat.zero_le _)

theorem timeAt_finish_eq (dur : Nat → Nat → Nat) (m : Map) (t : Nat) :
    timeAt dur (finish dur m) t = timeSimple dur tc0 (sortTc m) t := by
  have hcalc : calcAbs dur (ofMap (sortTc m)) = calcSimple dur tc0 (sortTc m) :=
    calcLoop_eq dur _ [] tc0 Last.nil (sortTc_sorted m)
  rw [finish, hcalc, timeAt_eq_seg]
  exact tca_calcSimple dur t _ tc0 none rfl

theorem sortTc_of_sorted (m : Map) (a : Nat) (h : SortedFrom a m) : sortTc m = m := by
  induction m generalizing a with
  | nil => rfl
  | cons p r ih =>
    simp only [sortTc, ih _ h.2]
    cases r with
    | nil => rfl
    | cons c r => simp [insertTc, h.2.1]

/-- `absTicks` only grows until the end-of-track resets it: one track is collected in non-decreasing tick order -/
theorem collectTrack_sorted (evs : List TEv) (δ : Nat) (h : ∀ e ∈ evs, e.eot = false) (abs : Nat) :
    SortedFrom abs (collectTrack (evs ++ [⟨δ, none, true⟩]) abs) := by
  induction evs generalizing abs with
  | nil => simp [collectTrack, SortedFrom]
  | cons e r ih =>
    have ih' := ih (fun x hx => h x (by simp [hx])) (abs + e.delta)
    simp only [List.cons_append, collectTrack, h e (by simp)]
    cases e.tempo with
    | none => exact ih'.mono (Nat.le_add_right _ _)
    | some u => exact ⟨Nat.le_add_right _ _, ih'⟩

/-- What the proofs need of `dur u d` = `MetricTicks(q).Duration(6e7/u, d).Microseconds()`: zero ticks take no time,
    it is monotone in the ticks, and it is within one microsecond of the exact `u·d/q` for segment durations up to
    the horizon `H` microseconds (the float64 arithmetic is only that accurate on a bounded range). -/
structure DurOK (dur : Nat → Nat → Nat) (q H : Nat) : Prop where
  zero : ∀ u, dur u 0 = 0
  mono : ∀ u d d', d ≤ d' → dur u d ≤ dur u d'
  upper : ∀ u d, u * d ≤ q * H → q * dur u d ≤ u * d + q
  lower : ∀ u d, u * d ≤ q * H → u * d ≤ q * dur u d + q

def SegOK (q H u d : Nat) : Prop := u * d ≤ q * H

/-- every segment on the way to tick `t` is inside the domain (same recursion as `exactFrom`) -/
def DomFrom (q H : Nat) : Nat → Nat → Map → Nat → Prop
  | a, lu, [], t => SegOK q H lu (t - a)
  | a, lu, p :: r, t =>
    if t ≤ p.1 then SegOK q H lu (t - a)
    else SegOK q H lu (p.1 - a) ∧ DomFrom q H p.1 p.2 r t

def InDomain (q H : Nat) (m : Map) (t : Nat) : Prop := DomFrom q H 0 defaultU m t

theorem seg_error {dur : Nat → Nat → Nat} {q H : Nat} (hd : DurOK dur q H) (s : Tc) (t : Nat)
    (hseg : SegOK q H s.u (t - s.tick)) :
    q * seg dur s t ≤ q * s.time + s.u * (t - s.tick) + q ∧
    q * s.time + s.u * (t - s.tick) ≤ q * seg dur s t + q := by
  rw [seg, Nat.mul_add]
  have h1 := hd.upper s.u (t - s.tick) hseg
  have h2 := hd.lower s.u (t - s.tick) hseg
  omega

/-- a tick reached again costs no `dur` call, hence no error -/
theorem next_error {dur : Nat → Nat → Nat} {q H : Nat} (hd : DurOK dur q H) (s : Tc) (p : Nat × Nat)
    (hseg : SegOK q H s.u (p.1 - s.tick)) :
    q * (next dur s p).time ≤ q * s.time + s.u * (p.1 - s.tick) + q * (if p.1 = s.tick then 0 else 1) ∧
    q * s.time + s.u * (p.1 - s.tick) ≤ q * (next dur s p).time + q * (if p.1 = s.tick then 0 else 1) := by
  simp only [next]
  by_cases h : p.1 = s.tick
  · simp [h]
  · simpa [h] using seg_error hd s p.1 hseg

/-- error of the fold against the exact integral: one microsecond per `dur` call. Holds for any map: sortedness
    is what ties the fold to the code, not what bounds its error. -/
theorem timeSimple_error {dur : Nat → Nat → Nat} {q H : Nat} (hd : DurOK dur q H) (r : Map) (s : Tc) (t : Nat)
    (hdom : DomFrom q H s.tick s.u r t) :
    q * timeSimple dur s r t ≤ q * s.time + exactFrom s.tick s.u r t + q * (segFrom s.tick r t + 1) ∧
    q * s.time + exactFrom s.tick s.u r t ≤ q * timeSimple dur s r t + q * (segFrom s.tick r t + 1) := by
  induction r generalizing s with
  | nil =>
    simp only [timeSimple, exactFrom, segFrom, DomFrom] at *
    have := seg_error hd s t hdom
    omega
  | cons p r ih =>
    obtain ⟨τ, u⟩ := p
    simp only [timeSimple, exactFrom, segFrom, DomFrom] at *
    by_cases htp : t ≤ τ
    · simp only [if_pos htp] at hdom ⊢
      have := seg_error hd s t hdom
      omega
    · simp only [if_neg htp] at hdom ⊢
      have h1 := ih (next dur s (τ, u)) hdom.2
      have h2 := next_error hd s (τ, u) hdom.1
      simp only [next_tick, next_u, Nat.mul_add, Nat.mul_one] at h1 h2 ⊢
      omega

theorem seg_mono {dur : Nat → Nat → Nat} (hm : ∀ u d d', d ≤ d' → dur u d ≤ dur u d') (s : Tc) (t t' : Nat)
    (htt : t ≤ t') : seg dur s t ≤ seg dur s t' :=
  Nat.add_le_add_left (hm s.u _ _ (Nat.sub_le_sub_right htt _)) _

/-- zero ticks taking no time, the `diffTicks == 0` branch is no case of its own: the new entry lies on the
    segment of `s` -/
theorem next_time {dur : Nat → Nat → Nat} (h0 : ∀ u, dur u 0 = 0) (s : Tc) (p : Nat × Nat) :
    (next dur s p).time = seg dur s p.1 := by
  rw [next, seg]
  split
  · next h => rw [h, Nat.sub_self, h0, Nat.add_zero]
  · rfl

theorem timeSimple_ge {dur : Nat → Nat → Nat} (h0 : ∀ u, dur u 0 = 0) (r : Map) (s : Tc) (t : Nat) :
    s.time ≤ timeSimple dur s r t := by
  induction r generalizing s with
  | nil => exact Nat.le_add_right _ _
  | cons p r ih =>
    rw [timeSimple]
    split
    · exact Nat.le_add_right _ _
    · exact Nat.le_trans (next_time h0 s p ▸ Nat.le_add_right _ _) (ih _)

theorem timeSimple_mono {dur : Nat → Nat → Nat} (h0 : ∀ u, dur u 0 = 0) (hm : ∀ u d d', d ≤ d' → dur u d ≤ dur u d')
    (r : Map) (s : Tc) (t t' : Nat) (htt : t ≤ t') : timeSimple dur s r t ≤ timeSimple dur s r t' := by
  induction r generalizing s with
  | nil => exact seg_mono hm s t t' htt
  | cons p r ih =>
    simp only [timeSimple]
    by_cases htp' : t' ≤ p.1
    · rw [if_pos htp', if_pos (Nat.le_trans htt htp')]
      exact seg_mono hm s t t' htt
    · rw [if_neg htp']
      by_cases htp : t ≤ p.1
      · -- up to the next entry on the segment of `s`, from that entry on by `timeSimple_ge`
        rw [if_pos htp]
        exact Nat.le_trans (seg_mono hm s t p.1 htp) (next_time h0 s p ▸ timeSimple_ge h0 r _ t')
      · rw [if_neg htp]
        exact ih _

/-- tempo in force during tick `k` (from `k` to `k+1`): the `u` of the last entry of the map whose tick is `≤ k`;
    `lu` if there is none -/
def uAtFrom (lu : Nat) (m : Map) (k : Nat) : Nat :=
  match (m.filter (fun p => p.1 ≤ k)).getLast? with
  | some p => p.2
  | none => lu

/-- "120 BPM before the first tempo event, each tempo valid from its tick until the next" -/
def uAt (m : Map) (k : Nat) : Nat := uAtFrom defaultU m k

/-- `q` times the exact time of tick `t` in microseconds: every tick `k < t` lasts `uAt m k / q` microseconds -/
def integral (m : Map) : Nat → Nat
  | 0 => 0
  | t + 1 => integral m t + uAt m t

theorem filter_nil_of_sorted (r : Map) (b t : Nat) (hs : SortedFrom b r) (h : t < b) :
    r.filter (fun p => p.1 ≤ t) = [] := by
  induction r generalizing b with
  | nil => rfl
  | cons p r ih =>
    have : ¬ p.1 ≤ t := by have := hs.1; omega
    simp only [List.filter_cons, this, decide_false]
    exact ih p.1 hs.2 (by have := hs.1; omega)

theorem uAtFrom_cons_le (lu τ u : Nat) (r : Map) (t : Nat) (h : τ ≤ t) :
    uAtFrom lu ((τ, u) :: r) t = uAtFrom u r t := by
  simp only [uAtFrom, List.filter_cons, h, decide_true, if_true, List.getLast?_cons]
  cases (r.filter fun p => p.1 ≤ t).getLast? <;> simp

theorem uAtFrom_cons_gt (lu τ u : Nat) (r : Map) (t : Nat) (hs : SortedFrom τ r) (h : t < τ) :
    uAtFrom lu ((τ, u) :: r) t = lu := by
  have h1 : ¬ τ ≤ t := by omega
  simp [uAtFrom, h1, filter_nil_of_sorted r τ t hs h]

theorem exactFrom_self (a lu : Nat) (r : Map) (hs : SortedFrom a r) : exactFrom a lu r a = 0 := by
  cases r with
  | nil => simp [exactFrom]
  | cons p r => obtain ⟨τ, u⟩ := p; have := hs.1; simp [exactFrom, this]

/-- at the tick of the next entry the two readings of `exactFrom` agree: the segment that starts there is still empty -/
theorem exactFrom_cons_of_le (a lu τ u : Nat) (r : Map) (t : Nat) (hs : SortedFrom τ r) (h : τ ≤ t) :
    exactFrom a lu ((τ, u) :: r) t = lu * (τ - a) + exactFrom τ u r t := by
  rw [exactFrom]
  split
  · obtain rfl : t = τ := by omega
    rw [exactFrom_self t u r hs, Nat.add_zero]
  · rfl

theorem exactFrom_succ (r : Map) (a lu t : Nat) (hs : SortedFrom a r) (hat : a ≤ t) :
    exactFrom a lu r (t + 1) = exactFrom a lu r t + uAtFrom lu r t := by
  have step : ∀ lu a, a ≤ t → lu * (t + 1 - a) = lu * (t - a) + lu := fun lu a h => by
    rw [Nat.succ_sub h, Nat.mul_succ]
  induction r generalizing a lu with
  | nil => exact step lu a hat
  | cons p r ih =>
    obtain ⟨τ, u⟩ := p
    by_cases h : τ ≤ t
    · rw [exactFrom_cons_of_le a lu τ u r _ hs.2 (Nat.le_succ_of_le h), exactFrom_cons_of_le a lu τ u r _ hs.2 h,
        uAtFrom_cons_le lu τ u r t h, ih τ u hs.2 h, Nat.add_assoc]
    · rw [exactFrom, if_pos (by omega), exactFrom, if_pos (by omega), uAtFrom_cons_gt lu τ u r t hs.2 (by omega)]
      exact step lu a hat

theorem exactNum_eq_integral (m : Map) (hs : SortedFrom 0 m) (t : Nat) : exactNum m t = integral m t := by
  induction t with
  | zero => simp [exactNum, integral, exactFrom_self 0 defaultU m hs]
  | succ t ih =>
    simp only [integral, ← ih, exactNum, uAt]
    exact exactFrom_succ m 0 defaultU t hs (Nat.zero_le _)

theorem domFrom_of_small (q H : Nat) (r : Map) (a lu t : Nat)
    (hH : exactFrom a lu r t ≤ q * H) : DomFrom q H a lu r t := by
  induction r generalizing a lu with
  | nil => simpa [DomFrom, SegOK, exactFrom] using hH
  | cons p r ih =>
    obtain ⟨τ, u⟩ := p
    simp only [DomFrom]
    by_cases htp : t ≤ τ
    · simpa [SegOK, exactFrom, htp] using hH
    · rw [if_neg htp]
      rw [exactFrom, if_neg htp] at hH
      exact ⟨Nat.le_trans (Nat.le_add_right _ _) hH, ih τ u (Nat.le_trans (Nat.le_add_left _ _) hH)⟩

theorem floor_spec (n d : Nat) (hd : 0 < d) : d * (n / d) ≤ n ∧ n < d * (n / d) + d :=
  ⟨Nat.mul_div_le n d, Nat.lt_mul_div_succ n hd⟩

theorem roundDiv_spec (n d : Nat) (hd : 0 < d) :
    2 * (d * roundDiv n d) ≤ 2 * n + d ∧ 2 * n + d < 2 * (d * roundDiv n d) + 2 * d := by
  unfold roundDiv
  rw [← Nat.mul_assoc]
  exact floor_spec _ _ (by omega)

/-- rounding to nanoseconds and truncating to microseconds is one floor -/
theorem durRef_eq (q u d : Nat) : durRef q u d = (2000 * (u * d) + q) / (2000 * q) := by
  rw [durRef, durNsRef, roundDiv, Nat.div_div_eq_div_mul, Nat.mul_assoc 1000 u d]
  congr 1 <;> omega

/-- hence within one divisor `2000 * q` of the dividend, as `roundDiv_spec` -/
theorem durRef_spec (q u d : Nat) (hq : 0 < q) :
    2000 * (q * durRef q u d) ≤ 2000 * (u * d) + q ∧ 2000 * (u * d) + q < 2000 * (q * durRef q u d) + 2000 * q := by
  rw [durRef_eq, ← Nat.mul_assoc]
  exact floor_spec _ _ (by omega)

def absTicks : List Nat → Nat → List Nat
  | [], _ => []
  | d :: r, abs => (abs + d) :: absTicks r (abs + d)

theorem doTrack_eq (dur : Nat → Nat → Nat) (l : List Tc) (ds : List Nat) (abs : Nat) :
    doTrack dur l ds abs = (absTicks ds abs).map fun a => (a, timeAt dur l a) := by
  induction ds generalizing abs with
  | nil => rfl
  | cons d r ih => simp [doTrack, absTicks, ih]

theorem absTicks_length (ds : List Nat) (abs : Nat) : (absTicks ds abs).length = ds.length := by
  induction ds generalizing abs with
  | nil => rfl
  | cons d r ih => simp [absTicks, ih]

theorem absTicks_getElem? (ds : List Nat) (abs i : Nat) (h : i < ds.length) :
    (absTicks ds abs)[i]? = some (abs + (ds.take (i + 1)).sum) := by
  induction ds generalizing abs i with
  | nil => simp at h
  | cons d r ih =>
    cases i with
    | zero => simp [absTicks]
    | succ i =>
      simp only [absTicks, List.getElem?_cons_succ, List.take_succ_cons, List.sum_cons]
      rw [ih (abs + d) i (by simpa using h)]
      simp [Nat.add_assoc]

end Midi.Tempo
