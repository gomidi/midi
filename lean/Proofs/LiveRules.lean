import Proofs.LiveInv
/-!
# Live decoder: the receiver rules (C06)

Under the invariant a status byte below `F7` finds `s.abandon` whatever was in progress (`step_status_abandon`). Runs of
data bytes with real-time bytes and ticks in between are treated once, by the phase lemma `feed_body`; its instances are
the oversize sysex, the data after `F4` / `F5` and the data without running status.
-/
namespace Midi.Live
open Midi

/-- the state in which nothing is in progress and no running status is set -/
def St.abandon (s : St) : St := { s with mode := .clean, status := 0, pend := none, sx := [] }

theorem cleanState_status_indep (s : St) (b st' : Nat) (hlo : 0x80 ≤ b) (hhi : b ≤ 0xF6) :
    cleanState { s with status := st' } b = cleanState s b := by
  rcases status_cases hlo (by omega : b < 0xF8) with hc | hs | hu | rfl | rfl | rfl
  · rw [cleanState_chanStatus _ b hc.1 hc.2, cleanState_chanStatus _ b hc.1 hc.2]
  · rw [cleanState_syscStatus _ b hs, cleanState_syscStatus _ b hs]
  · rw [cleanState_undefined _ b hu, cleanState_undefined _ b hu]
  · rw [cleanState_tune, cleanState_tune]
  · rw [cleanState_sxStart, cleanState_sxStart]
  · omega

/-- under the invariant the state a status byte finds (`idle_eq`) is `s.abandon` but for the running status, which
    `cleanState` does not read -/
theorem step_status_abandon (c : Cfg) (s : St) (b : Nat) (h : Inv c s) (hlo : 0x80 ≤ b) (hhi : b ≤ 0xF6) :
    step c s b = cleanState s.abandon b := by
  rw [step_status c s b hlo (by omega) (by omega), idle_eq c s h]
  exact cleanState_status_indep s.abandon b s.status hlo hhi

theorem cleanState_abandon_indep (s1 s2 : St) (b : Nat) (hlo : 0x80 ≤ b) (hhi : b ≤ 0xF6) (hts : s1.ts = s2.ts) :
    (cleanState s1.abandon b).2 = (cleanState s2.abandon b).2 ∧
    (cleanState s1.abandon b).1.mode = (cleanState s2.abandon b).1.mode ∧
    (cleanState s1.abandon b).1.status = (cleanState s2.abandon b).1.status ∧
    (cleanState s1.abandon b).1.pend = (cleanState s2.abandon b).1.pend ∧
    (cleanState s1.abandon b).1.sx = (cleanState s2.abandon b).1.sx ∧
    (cleanState s1.abandon b).1.ts = (cleanState s2.abandon b).1.ts ∧
    ((cleanState s1.abandon b).1.mode = .chan ∨ (cleanState s1.abandon b).1.mode = .sysc →
      (cleanState s1.abandon b).1.typ = (cleanState s2.abandon b).1.typ) ∧
    ((cleanState s1.abandon b).1.mode = .sysex →
      (cleanState s1.abandon b).1.sxTs = (cleanState s2.abandon b).1.sxTs) := by
  rcases status_cases hlo (by omega : b < 0xF8) with hc | hs | hu | rfl | rfl | rfl
  · rw [cleanState_chanStatus _ b hc.1 hc.2, cleanState_chanStatus _ b hc.1 hc.2]
    simp [St.abandon, hts]
  · rw [cleanState_syscStatus _ b hs, cleanState_syscStatus _ b hs]
    simp [St.abandon, hts]
  · rw [cleanState_undefined _ b hu, cleanState_undefined _ b hu]
    simp [St.abandon, hts]
  · rw [cleanState_tune, cleanState_tune]
    simp [St.abandon, hts]
  · rw [cleanState_sxStart, cleanState_sxStart]
    simp [St.abandon, hts]
  · omega

theorem step_status_frames (c : Cfg) (s : St) (b : Nat) (hlo : 0x80 ≤ b) (hhi : b ≤ 0xF6) :
    (step c s b).2 = if b = 0xF6 then [([0xF6, 0, 0], s.ts)] else [] := by
  rw [step_status c s b hlo (by omega) (by omega)]
  rcases status_cases hlo (by omega : b < 0xF8) with hc | hs | hu | rfl | rfl | rfl
  · rw [cleanState_chanStatus _ b hc.1 hc.2, if_neg (by omega)]
  · rw [cleanState_syscStatus _ b hs, if_neg (by omega)]
  · rw [cleanState_undefined _ b hu, if_neg (by omega)]
  · rw [cleanState_tune]; rfl
  · rw [cleanState_sxStart]; rfl
  · omega

theorem step_data_no_status (c : Cfg) (s : St) (b : Nat) (hm : s.mode = .clean) (hs : s.status = 0) (hb : b < 0x80) :
    step c s b = (s, []) := by
  rw [step_clean_data c s b hm hb, if_neg (by simp [hs])]

theorem feed_ignored (c : Cfg) (s : St) (ds : List Nat) (h : ∀ d ∈ ds, step c s d = (s, [])) :
    feed c s (ds.map .byte) = (s, []) := by
  induction ds with
  | nil => rfl
  | cons d r ih =>
    simp only [List.map_cons, feed, stepTok, h d (by simp), List.nil_append]
    exact ih (fun x hx => h x (by simp [hx]))

theorem feed_data_no_status (c : Cfg) (s : St) (ds : List Nat) (hm : s.mode = .clean) (hs : s.status = 0)
    (hds : ∀ d ∈ ds, d < 0x80) : feed c s (ds.map .byte) = (s, []) :=
  feed_ignored c s ds (fun d hd => step_data_no_status c s d hm hs (hds d hd))

theorem feed_unknown_data (c : Cfg) (s : St) (ds : List Nat) (hm : s.mode = .unknown)
    (hds : ∀ d ∈ ds, d < 0x80) : feed c s (ds.map .byte) = (s, []) :=
  feed_ignored c s ds (fun d hd => step_unknown_data c s d hm (hds d hd))

theorem step_undefined (c : Cfg) (s : St) (b : Nat) (hb : b = 0xF4 ∨ b = 0xF5) :
    (step c s b).2 = [] ∧ (step c s b).1.mode = .unknown ∧ (step c s b).1.status = 0 ∧ (step c s b).1.pend = none := by
  rw [step_status c s b (by omega) (by omega) (by omega), cleanState_undefined _ b hb]
  exact ⟨rfl, rfl, rfl, rfl⟩

theorem step_F0 (c : Cfg) (s : St) :
    (step c s 0xF0).2 = [] ∧ (step c s 0xF0).1.mode = .sysex ∧ (step c s 0xF0).1.sx = [0xF0] := by
  rw [step_status c s 0xF0 (by omega) (by omega) (by omega), cleanState_sxStart]
  exact ⟨rfl, rfl, rfl⟩

/-- tokens between two (non-real-time) status bytes, e.g. between `F0` and `F7` of one sysex: data bytes,
    real-time bytes, clock ticks -/
def NonStatusTok : Tok → Prop
  | .byte b => b < 0x80 ∨ 0xF8 ≤ b
  | .tick _ => True

def dataCount : List Tok → Nat
  | [] => 0
  | .byte b :: r => (if b < 0x80 then 1 else 0) + dataCount r
  | .tick _ :: r => dataCount r

def rtBytes : List Tok → List Nat
  | [] => []
  | .byte b :: r => if 0xF8 ≤ b then b :: rtBytes r else rtBytes r
  | .tick _ :: r => rtBytes r

/-- a phase in which data bytes make no frame: `P n s` = "`s` is in the phase and `n` data bytes are still to
    come"; if `P` survives a tick and every data byte takes `P (n+1)` to `P n` without a frame, then a body of
    non-status tokens ends in `P 0` and the only frames are its real-time bytes -/
theorem feed_body (c : Cfg) (P : Nat → St → Prop)
    (htick : ∀ n s d, P n s → P n { s with ts := s.ts + d })
    (hdata : ∀ n s d, P (n + 1) s → d < 0x80 → (step c s d).2 = [] ∧ P n (step c s d).1)
    (body : List Tok) (hbody : ∀ t ∈ body, NonStatusTok t) :
    ∀ s, P (dataCount body) s →
      P 0 (feed c s body).1 ∧ (feed c s body).2.map Prod.fst = (rtBytes body).map (fun r => [r]) := by
  induction body with
  | nil => intro s h; exact ⟨h, rfl⟩
  | cons t r ih =>
    have hr : ∀ t ∈ r, NonStatusTok t := fun x hx => hbody x (by simp [hx])
    intro s h
    cases t with
    | tick d => exact ih hr _ (htick _ s d h)
    | byte b =>
      have hb : b < 0x80 ∨ 0xF8 ≤ b := hbody (.byte b) (by simp)
      by_cases hrt : 0xF8 ≤ b
      · have e : ¬ b < 0x80 := by omega
        simp only [dataCount, if_neg e, Nat.zero_add] at h
        obtain ⟨h1, h2⟩ := ih hr s h
        simp only [feed, stepTok, step_rt c s b hrt, rtBytes, if_pos hrt, List.map_cons, List.cons_append,
          List.nil_append, h2]
        exact ⟨h1, trivial⟩
      · have hd : b < 0x80 := by omega
        simp only [dataCount, if_pos hd, Nat.add_comm 1] at h
        obtain ⟨f0, h'⟩ := hdata _ s b h hd
        simp only [feed, stepTok, f0, rtBytes, if_neg hrt, List.nil_append]
        exact ih hr _ h'

/-- inside a sysex whose remaining data bytes no longer fit, the buffer can only end dropped or full;
    the only frames are the interleaved real-time bytes -/
theorem feed_oversize_body (c : Cfg) (body : List Tok) (s : St) (hbody : ∀ t ∈ body, NonStatusTok t)
    (hm : s.mode = .sysex)
    (hfull : c.sysex = true → s.sx ≠ [] → c.bufSize ≤ s.sx.length + dataCount body) :
    (feed c s body).1.mode = .sysex ∧
    (c.sysex = true → (feed c s body).1.sx ≠ [] → c.bufSize ≤ (feed c s body).1.sx.length) ∧
    (feed c s body).2.map Prod.fst = (rtBytes body).map (fun r => [r]) := by
  -- the phase: inside the sysex; with the option on, the buffer is dropped or `n` more data bytes overflow it
  have hdata : ∀ n s d, s.mode = .sysex ∧ (c.sysex = true → s.sx ≠ [] → c.bufSize ≤ s.sx.length + (n + 1)) →
      d < 0x80 → (step c s d).2 = [] ∧
        ((step c s d).1.mode = .sysex ∧ (c.sysex = true → (step c s d).1.sx ≠ [] → c.bufSize ≤ (step c s d).1.sx.length + n)) := by
    intro n s d h hd
    rw [step_sysex_data c s d h.1 hd]
    refine ⟨rfl, h.1, fun hc => ?_⟩
    show (if c.sysex = true ∧ s.sx ≠ [] then (if s.sx.length < c.bufSize then s.sx ++ [d] else []) else s.sx) ≠ [] → _
    split
    · next hne =>
      split
      · intro _
        have := h.2 hc hne.2
        simp only [List.length_append, List.length_cons, List.length_nil]
        omega
      · intro hh
        exact absurd rfl hh
    · next hne =>
      intro hh
      exact absurd ⟨hc, hh⟩ hne
  have := feed_body c (fun n s => s.mode = .sysex ∧ (c.sysex = true → s.sx ≠ [] → c.bufSize ≤ s.sx.length + n))
    (fun n s d h => h) hdata body hbody s ⟨hm, hfull⟩
  exact ⟨this.1.1, by simpa using this.1.2, this.2⟩

theorem feed_oversize_sysex (c : Cfg) (s : St) (body : List Tok) (hbody : ∀ t ∈ body, NonStatusTok t)
    (hover : c.bufSize < dataCount body + 2) :
    (feed c s (.byte 0xF0 :: body ++ [.byte 0xF7])).2.map Prod.fst = (rtBytes body).map (fun r => [r]) ∧
    (feed c s (.byte 0xF0 :: body ++ [.byte 0xF7])).1.mode = .clean ∧
    (feed c s (.byte 0xF0 :: body ++ [.byte 0xF7])).1.sx = [] := by
  obtain ⟨f0, m0, x0⟩ := step_F0 c s
  obtain ⟨hm, hfull, hfr⟩ := feed_oversize_body c body (step c s 0xF0).1 hbody m0 (fun _ _ => by
    rw [x0]
    simp only [List.length_cons, List.length_nil]
    omega)
  have hno : ¬ (c.sysex = true ∧ (feed c (step c s 0xF0).1 body).1.sx ≠ [] ∧
      (feed c (step c s 0xF0).1 body).1.sx.length < c.bufSize) := by
    rintro ⟨a, b, l⟩
    have := hfull a b
    omega
  simp only [feed, stepTok, f0, List.nil_append, feed_append, step_sysex_end c _ hm, if_neg hno, List.append_nil]
  exact ⟨hfr, trivial, trivial⟩

theorem feed_unknown_body (c : Cfg) (body : List Tok) (s : St) (hbody : ∀ t ∈ body, NonStatusTok t)
    (hm : s.mode = .unknown) :
    (feed c s body).1.mode = .unknown ∧ (feed c s body).1.status = s.status ∧ (feed c s body).1.pend = s.pend ∧
    (feed c s body).2.map Prod.fst = (rtBytes body).map (fun r => [r]) := by
  have := feed_body c (fun _ s' => s'.mode = .unknown ∧ s'.status = s.status ∧ s'.pend = s.pend)
    (fun n s' d h => h)
    (fun n s' d h hd => by
      rw [step_unknown_data c s' d h.1 hd]
      exact ⟨rfl, h⟩)
    body hbody s ⟨hm, rfl, rfl⟩
  exact ⟨this.1.1, this.1.2.1, this.1.2.2, this.2⟩

theorem feed_no_status_body (c : Cfg) (body : List Tok) (s : St) (hbody : ∀ t ∈ body, NonStatusTok t)
    (hm : s.mode = .clean) (hs : s.status = 0) :
    (feed c s body).1.mode = .clean ∧ (feed c s body).1.status = 0 ∧ (feed c s body).1.pend = s.pend ∧
    (feed c s body).2.map Prod.fst = (rtBytes body).map (fun r => [r]) := by
  have := feed_body c (fun _ s' => s'.mode = .clean ∧ s'.status = 0 ∧ s'.pend = s.pend)
    (fun n s' d h => h)
    (fun n s' d h hd => by
      rw [step_data_no_status c s' d h.1 h.2.1 hd]
      exact ⟨rfl, h⟩)
    body hbody s ⟨hm, hs, rfl⟩
  exact ⟨this.1.1, this.1.2.1, this.1.2.2, this.2⟩

end Midi.Live
