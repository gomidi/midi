import MidiModel.Play
import Proofs.ListClasses
/-!
# Helper lemmas for C12 (playback): `Do` enumerates the file, the callback filters, the stable sort
keeps every track's order, the pacing loop sleeps the differences.
-/
namespace Midi.Play

theorem isPlayable_eq (m : Bytes) :
    isPlayable m = match m with | [] => false | b :: _ => playableByte b := by
  cases m with
  | nil => rfl
  | cons b r => cases h : (b == 0xFF) <;> simp [isPlayable, isMeta, playableByte, h]

theorem isPlayable_not_meta (m : Bytes) (h : isPlayable m = true) : m.head? ≠ some 0xFF := by
  cases m with
  | nil => simp
  | cons b r =>
    simp only [isPlayable, isMeta] at h
    intro hb
    simp only [List.head?_cons, Option.some.injEq] at hb
    subst hb
    simp at h

theorem isPlayable_channel (b : Nat) (r : Bytes) (h1 : 0x80 ≤ b) (h2 : b ≤ 0xEF) :
    isPlayable (b :: r) = true := by
  have hne : (b == 0xFF) = false := by simp; omega
  simp only [isPlayable, isMeta, hne, typeKnown]
  simp [h1, h2]

/-- the numbering `Do` gives the events of a track is `List.zipIdx`, so core's lemmas about it apply -/
theorem enumFrom_eq (no : Nat) : ∀ (tr : TrackIn) (i : Nat),
    enumFrom no i tr = (tr.zipIdx i).map (fun p => ⟨no, p.2, p.1.1, p.1.2⟩)
  | [], _ => rfl
  | (t, b) :: r, i => by simp [enumFrom, enumFrom_eq no r (i + 1)]

theorem mem_enumFrom (no : Nat) (e : Ev) (tr : TrackIn) (i : Nat) :
    e ∈ enumFrom no i tr ↔ e.track = no ∧ i ≤ e.idx ∧ tr[e.idx - i]? = some (e.time, e.bytes) := by
  rw [enumFrom_eq, List.mem_map]
  constructor
  · rintro ⟨p, hp, rfl⟩
    exact ⟨rfl, List.mem_zipIdx_iff_le_and_getElem?_sub.1 hp⟩
  · rintro ⟨h1, h2⟩
    refine ⟨((e.time, e.bytes), e.idx), List.mem_zipIdx_iff_le_and_getElem?_sub.2 h2, ?_⟩
    cases e
    simp_all

theorem track_of_mem_enumFrom {no i : Nat} {tr : TrackIn} {e : Ev} (h : e ∈ enumFrom no i tr) : e.track = no :=
  ((mem_enumFrom no e tr i).1 h).1

theorem enumFrom_pairwise_idx (no : Nat) : ∀ (tr : TrackIn) (i : Nat),
    (enumFrom no i tr).Pairwise (fun a b => a.idx < b.idx)
  | [], _ => by simp [enumFrom]
  | (t, b) :: r, i => by
    simp only [enumFrom, List.pairwise_cons]
    refine ⟨fun e he => ?_, enumFrom_pairwise_idx no r (i + 1)⟩
    have := (mem_enumFrom no e r (i + 1)).1 he
    show i < e.idx
    omega

theorem enumFrom_content (no : Nat) : ∀ (tr : TrackIn) (i : Nat),
    (enumFrom no i tr).map (fun e => (e.time, e.bytes)) = tr
  | [], _ => rfl
  | (t, b) :: r, i => by simp [enumFrom, enumFrom_content no r (i + 1)]

theorem enumFrom_pairwise_time (no i : Nat) (tr : TrackIn) (h : tr.Pairwise (fun a b => a.1 ≤ b.1)) :
    (enumFrom no i tr).Pairwise (fun a b => a.time ≤ b.time) := by
  rw [← enumFrom_content no tr i, List.pairwise_map] at h
  exact h

theorem le_track_of_mem_doFrom (sel : List Int) (e : Ev) :
    ∀ (f : FileIn) (no : Nat), e ∈ doFrom sel no f → no ≤ e.track
  | [], _, h => by simp [doFrom] at h
  | tr :: rest, no, h => by
    rcases List.mem_append.1 h with h | h
    · split at h
      · exact Nat.le_of_eq (track_of_mem_enumFrom h).symm
      · cases h
    · exact Nat.le_of_succ_le (le_track_of_mem_doFrom sel e rest (no + 1) h)

theorem doFrom_filter_track (sel : List Int) (k : Nat) : ∀ (f : FileIn) (no : Nat), no ≤ k →
    (doFrom sel no f).filter (fun e => e.track == k) =
      if doTrack sel k = true then enumFrom k 0 (f[k - no]?.getD []) else []
  | [], no, _ => by simp [doFrom, enumFrom]
  | tr :: rest, no, hle => by
    simp only [doFrom, List.filter_append]
    by_cases hk : k = no
    · subst hk
      have hrest : (doFrom sel (k + 1) rest).filter (fun e => e.track == k) = [] :=
        List.filter_eq_nil_iff.2 fun e he => by
          have := le_track_of_mem_doFrom sel e rest (k + 1) he
          simp only [beq_iff_eq]
          omega
      rw [hrest, List.append_nil, Nat.sub_self, List.getElem?_cons_zero, Option.getD_some]
      split
      · exact List.filter_eq_self.2 fun e he => by simpa using track_of_mem_enumFrom he
      · rfl
    · have hfirst : (if doTrack sel no = true then enumFrom no 0 tr else []).filter (fun e => e.track == k) = [] :=
        List.filter_eq_nil_iff.2 fun e he => by
          split at he
          · simpa [track_of_mem_enumFrom he] using Ne.symm hk
          · cases he
      rw [hfirst, List.nil_append, doFrom_filter_track sel k rest (no + 1) (by omega),
        show k - no = (k - (no + 1)) + 1 by omega, List.getElem?_cons_succ]

theorem mem_doAll (sel : List Int) (f : FileIn) (e : Ev) :
    e ∈ doAll sel f ↔
      doTrack sel e.track = true ∧ ∃ tr, f[e.track]? = some tr ∧ tr[e.idx]? = some (e.time, e.bytes) := by
  -- an event is among the events of its own track, and those are known
  have hown : e ∈ doAll sel f ↔ e ∈ (doAll sel f).filter (fun x => x.track == e.track) := by simp
  rw [hown, doAll, doFrom_filter_track sel e.track f 0 (Nat.zero_le _)]
  by_cases hd : doTrack sel e.track = true
  · cases f[e.track]? <;> simp [hd, mem_enumFrom, enumFrom]
  · simp [hd]

theorem collectOne_some (pm : PortMap) (e : Ev) (x : PlayEv) :
    collectOne pm e = some x ↔ x.ev = e ∧ isPlayable e.bytes = true ∧ outFor pm e.track = some x.port := by
  obtain ⟨xe, xp⟩ := x
  unfold collectOne
  cases isPlayable e.bytes <;> cases outFor pm e.track <;> simp [eq_comm]

theorem filterMap_collectOne (pm : PortMap) (k : Nat) : ∀ (l : List Ev), (∀ e ∈ l, e.track = k) →
    l.filterMap (collectOne pm) = match outFor pm k with
      | some p => (l.filter (fun e => isPlayable e.bytes)).map (fun e => ⟨e, p⟩)
      | none => []
  | [], _ => by cases outFor pm k <;> rfl
  | e :: r, h => by
    have ih := filterMap_collectOne pm k r (fun x hx => h x (List.mem_cons_of_mem _ hx))
    have he : e.track = k := h e List.mem_cons_self
    cases ho : outFor pm k <;> cases hp : isPlayable e.bytes <;> simp_all [collectOne]

theorem collect_filter_track (f : FileIn) (sel : List Int) (pm : PortMap) (k : Nat) :
    (collect f sel pm).filter (fun x => x.ev.track == k) =
      match doTrack sel k, outFor pm k with
      | true, some p => ((enumFrom k 0 (f[k]?.getD [])).filter (fun e => isPlayable e.bytes)).map (fun e => ⟨e, p⟩)
      | _, _ => [] := by
  have h1 : (collect f sel pm).filter (fun x => x.ev.track == k) =
      ((doAll sel f).filter (fun e => e.track == k)).filterMap (collectOne pm) := by
    simp only [collect]
    rw [List.filter_filterMap, List.filterMap_filter]
    congr 1
    funext e
    cases hc : collectOne pm e with
    | none => simp
    | some x => by_cases hk : e.track = k <;> simp [hk, ((collectOne_some pm e x).1 hc).1]
  rw [h1, doAll, doFrom_filter_track sel k f 0 (Nat.zero_le _)]
  cases doTrack sel k with
  | false => cases outFor pm k <;> rfl
  | true =>
    rw [if_pos rfl, filterMap_collectOne pm k _ fun e he => track_of_mem_enumFrom he]
    cases outFor pm k <;> rfl

/-- for any relation: used with the positions and with the times -/
theorem collect_track_pairwise (f : FileIn) (sel : List Int) (pm : PortMap) (k : Nat) {R : Ev → Ev → Prop}
    (h : (enumFrom k 0 (f[k]?.getD [])).Pairwise R) :
    ((collect f sel pm).filter (fun x => x.ev.track == k)).Pairwise (fun a b => R a.ev b.ev) := by
  rw [collect_filter_track]
  split
  · exact List.pairwise_map.2 (h.filter _)
  · exact List.Pairwise.nil

/-- for the collected events themselves and, under `FileMono`, for the sorted ones (`play_filter_track`) -/
theorem pairwise_idx_of_filter_track (f : FileIn) (sel : List Int) (pm : PortMap) (l : List PlayEv)
    (h : ∀ k, l.filter (fun x => x.ev.track == k) = (collect f sel pm).filter (fun x => x.ev.track == k)) :
    l.Pairwise (fun a b => a.ev.track = b.ev.track → a.ev.idx < b.ev.idx) :=
  List.Pairwise.of_filter_key (fun x : PlayEv => x.ev.track) fun k =>
    h k ▸ collect_track_pairwise f sel pm k (enumFrom_pairwise_idx k _ 0)

theorem le_trans : ∀ (a b c : PlayEv), le a b = true → le b c = true → le a c = true := by
  intro a b c; simp only [le, decide_eq_true_eq]; omega

theorem le_total : ∀ (a b : PlayEv), (le a b || le b a) = true := by
  intro a b; simp only [le, Bool.or_eq_true, decide_eq_true_eq]; omega

theorem play_perm_collect (f : FileIn) (sel : List Int) (pm : PortMap) :
    (play f sel pm).Perm (collect f sel pm) := List.mergeSort_perm _ le

theorem mem_play (f : FileIn) (sel : List Int) (pm : PortMap) (x : PlayEv) :
    x ∈ play f sel pm ↔
      (doTrack sel x.ev.track = true ∧
        ∃ tr, f[x.ev.track]? = some tr ∧ tr[x.ev.idx]? = some (x.ev.time, x.ev.bytes)) ∧
      isPlayable x.ev.bytes = true ∧ outFor pm x.ev.track = some x.port := by
  rw [(play_perm_collect f sel pm).mem_iff]
  simp only [collect, List.mem_filterMap, collectOne_some, mem_doAll]
  constructor
  · rintro ⟨e, he, rfl, h⟩
    exact ⟨he, h⟩
  · rintro ⟨h1, h⟩
    exact ⟨x.ev, h1, rfl, h⟩

/-- every track's times are non-decreasing in file order (what C11's `timeAt_mono` gives) -/
def FileMono (f : FileIn) : Prop := ∀ tr ∈ f, tr.Pairwise (fun a b => a.1 ≤ b.1)

theorem FileMono.getD {f : FileIn} (hm : FileMono f) (k : Nat) :
    (f[k]?.getD []).Pairwise (fun a b => a.1 ≤ b.1) := by
  cases h : f[k]? with
  | none => exact List.Pairwise.nil
  | some tr => exact hm tr (List.mem_of_getElem? h)

theorem play_filter_track (f : FileIn) (sel : List Int) (pm : PortMap) (hm : FileMono f) (k : Nat) :
    (play f sel pm).filter (fun x => x.ev.track == k) = (collect f sel pm).filter (fun x => x.ev.track == k) := by
  apply List.filter_mergeSort le_trans le_total
  -- the track's own times are non-decreasing, so its events were in order before the sort
  simpa [le] using collect_track_pairwise f sel pm k (enumFrom_pairwise_time k 0 _ (hm.getD k))

/-- `1000 * t` fits into int64 nanoseconds (about 292 years) -/
def InRange (t : Int) : Prop := 0 ≤ t ∧ t ≤ 9223372036854775

theorem wrap64_id (x : Int) (h1 : -9223372036854775808 ≤ x) (h2 : x < 9223372036854775808) : wrap64 x = x := by
  rw [wrap64, Int.emod_eq_of_lt (by omega) (by omega), Int.add_sub_cancel]

theorem nanos_eq (t : Int) (h : InRange t) : nanos t = 1000 * t :=
  wrap64_id _ (by have := h.1; omega) (by have := h.2; omega)

theorem sleeps_length : ∀ (l : List PlayEv) (last : Int), (sleeps last l).length = l.length
  | [], _ => rfl
  | p :: r, last => by simp [sleeps, sleeps_length r]

/-- from a reference instant `1000 * t0` not later than any event: all sleeps are non-negative and the
    sleeps up to and including event `i` add up to its distance from the reference -/
theorem sleeps_spec : ∀ (l : List PlayEv) (t0 : Int), InRange t0 →
    (∀ p ∈ l, InRange p.ev.time ∧ t0 ≤ p.ev.time) →
    l.Pairwise (fun a b => a.ev.time ≤ b.ev.time) →
    (∀ s ∈ sleeps (1000 * t0) l, 0 ≤ s) ∧
    ∀ (i : Nat) (h : i < l.length), ((sleeps (1000 * t0) l).take (i + 1)).sum = 1000 * l[i].ev.time - 1000 * t0
  | [], _, _, _, _ => by simp [sleeps]
  | p :: r, t0, h0, hr, hs => by
    have hp := hr p List.mem_cons_self
    have hn : nanos p.ev.time = 1000 * p.ev.time := nanos_eq _ hp.1
    have hw : wrap64 (1000 * p.ev.time - 1000 * t0) = 1000 * p.ev.time - 1000 * t0 := by
      apply wrap64_id <;> (have := hp.1; have := hp.2; unfold InRange at *; omega)
    simp only [List.pairwise_cons] at hs
    have ih := sleeps_spec r p.ev.time hp.1
      (fun q hq => ⟨(hr q (List.mem_cons_of_mem _ hq)).1, hs.1 q hq⟩) hs.2
    simp only [sleeps, hn, hw]
    constructor
    · intro s hsm
      simp only [List.mem_cons] at hsm
      rcases hsm with rfl | hsm
      · have := hp.2; omega
      · exact ih.1 s hsm
    · intro i hi
      cases i with
      | zero => simp
      | succ j =>
        simp only [List.length_cons] at hi
        have := ih.2 j (by omega)
        simp only [List.take_succ_cons, List.sum_cons, List.getElem_cons_succ, this]
        omega

/-- `out` is a stable sort of `l` by `key`: sorted, and for every key value the elements with that key are the
    same ones, in the same order -/
def StableSortOf {α : Type} (key : α → Int) (l out : List α) : Prop :=
  out.Pairwise (fun a b => key a ≤ key b) ∧
  ∀ k : Int, out.filter (fun a => key a == k) = l.filter (fun a => key a == k)

theorem mergeSort_stable (l : List PlayEv) : StableSortOf (fun x => x.ev.time) l (l.mergeSort le) := by
  refine ⟨by simpa [le] using List.pairwise_mergeSort le_trans le_total l, fun k => ?_⟩
  -- events of one instant are in order whichever way they stand
  refine List.filter_mergeSort le_trans le_total _ (List.pairwise_filter.2 (List.pairwise_of_forall ?_))
  intro a b ha hb
  simp only [beq_iff_eq] at ha hb
  simp only [le, decide_eq_true_eq]
  omega

end Midi.Play
