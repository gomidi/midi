import Proofs.SequencerExport
/-!
# C20 — sequencer export lays bars end to end and places events on the 32nd-note grid

Model: `MidiModel/Sequencer.lean` (`Song.addBar`, `Bar.len`, `place` = `SetBarAbsTicks`, `toSMF0`, `toSMF1`,
`uint8`/`uint16`/`uint32` conversions explicit, `sort.Sort` a parameter `srt`).
What the text prescribes is defined independently in `Proofs/SequencerSpec.lean` (`len32`, `laid`, `endOf`,
`evSpec`, `sigChanges`, `timeline`); a track is observed through `timeline 0 tr` = (absolute tick, message).

Domain `Dom s` (DESIGN §8): resolution divisible by 8 (0 = 960); every bar `num/den` with `num` 1..24, `den` one
of 1, 2, 4, 8, 16, 32 and at most 255 thirty-seconds; every event inside its bar (`pos < len32`), `uint8` duration,
channel (or sysex) message; every note (note-on with a velocity, duration > 0) ends within the song; the song is
shorter than 2^32 ticks (deltas are `uint32`: a longer song cannot be written with one closing delta).
`SortSpec srt`: `sort.Sort` returns a permutation in non-decreasing tick order — nothing is assumed about the
order of events that share a tick, all statements about such events are multiset (`Perm`) statements.
`ExportsTo srt s tr0 bt g` (`Proofs/SequencerExport.lean`): both exports succeed; `tr0`, `bt`, `g n` are their tracks.
-/
namespace Midi.C20
open Midi Midi.Smf Midi.Sequencer

/-- No panic on the domain: both exports return a file, in the song's resolution. -/
theorem exports_succeed (s : Song) (srt : List TEv → List TEv) (hd : Dom s) (hs : SortSpec srt) :
    ∃ tr0 bt g, ExportsTo srt s tr0 bt g := by
  obtain ⟨f1, hf1, htf1, htr1⟩ := toSMF1_dom s hd srt hs
  -- `tr0 bt g`, the two files, then the clauses of `ExportsTo`: both results, both track lists, both divisions
  exact ⟨_, _, _, _, f1, toSMF0_dom s hd srt, hf1, rfl, htr1, rfl, htf1⟩

/-- `SetBarAbsTicks`: the first bar starts at 0 and every bar starts where the previous one ends, a bar being
    `num·32/den` thirty-seconds of `t` ticks long — for every sequence of signatures of the domain (the `uint8`
    result of `Bar.Len` is exact there) and every `t`. `placed` = bars with their `AbsTicks`, `last` = `lastTick`. -/
theorem bar_start_succ (t : Nat) (bars : List Bar) (h : ∀ b ∈ bars, SigOK b) :
    ∃ placed last, place t 0 bars = some (placed, last) ∧ placed = laid t 0 bars ∧ last = endOf t 0 bars ∧
      placed.map (·.2) = bars ∧
      (placed.map (·.1) ++ [last])[0]? = some 0 ∧
      ∀ (k : Nat) (b : Bar), bars[k]? = some b →
        ∃ st, (placed.map (·.1) ++ [last])[k]? = some st ∧
          (placed.map (·.1) ++ [last])[k+1]? = some (st + b.num * 32 / b.den * t) :=
  ⟨_, _, place_eq t bars 0 h, rfl, rfl, laid_map_snd t bars 0, bounds_head t bars 0, bounds_succ t bars 0⟩

/-- Every event is exported at its bar start plus its position (in thirty-seconds of the resolution): in the
    single track of `ToSMF0` and in the track of its track number of `ToSMF1`. -/
theorem event_tick (s : Song) (srt : List TEv → List TEv) (hd : Dom s) (hs : SortSpec srt)
    (tr0 bt : Track) (g : Nat → Track) (h : ExportsTo srt s tr0 bt g)
    (sb : Nat × Bar) (hsb : sb ∈ laid (tq s) 0 s.bars) (e : Sequencer.Event) (he : e ∈ sb.2.events) :
    (sb.1 + e.pos * tq s, e.msg) ∈ timeline 0 tr0 ∧
    e.trackNo ∈ usedTracks s ∧ (sb.1 + e.pos * tq s, e.msg) ∈ timeline 0 (g e.trackNo) := by
  obtain ⟨h0, _, h1⟩ := exports_exact s srt hd hs tr0 bt g h
  obtain ⟨m1, m2, m3⟩ := spec_mem s sb hsb e he ⟨sb.1 + e.pos * tq s, 0, e.msg, e.trackNo⟩
    ((mem_evSpec _ _ _ _).2 (Or.inl rfl))
  exact ⟨shape_mem h0 (List.mem_append_right _ m1), m2, shape_mem (h1 _ m2) m3⟩

/-- Every note (note-on `9c kk vv` with a velocity, duration > 0) is ended by the note-off `8c kk 00` exactly its
    duration after its start, in both exports. -/
theorem noteoff_tick (s : Song) (srt : List TEv → List TEv) (hd : Dom s) (hs : SortSpec srt)
    (tr0 bt : Track) (g : Nat → Track) (h : ExportsTo srt s tr0 bt g)
    (sb : Nat × Bar) (hsb : sb ∈ laid (tq s) 0 s.bars) (e : Sequencer.Event) (he : e ∈ sb.2.events)
    (ch key vel : Nat) (hm : e.msg = [0x90 + ch, key, vel]) (hch : ch < 16) (hkey : key < 128)
    (hv : 0 < vel) (hv' : vel < 128) (hdur : 0 < e.dur) :
    (sb.1 + (e.pos + e.dur) * tq s, [0x80 + ch, key, 0]) ∈ timeline 0 tr0 ∧
    (sb.1 + (e.pos + e.dur) * tq s, [0x80 + ch, key, 0]) ∈ timeline 0 (g e.trackNo) := by
  obtain ⟨h0, _, h1⟩ := exports_exact s srt hd hs tr0 bt g h
  have hns := noteStart_bytes ch key vel hch hkey hv hv'
  obtain ⟨m1, m2, m3⟩ := spec_mem s sb hsb e he ⟨sb.1 + (e.pos + e.dur) * tq s, 0, noteOffMsg ch key, e.trackNo⟩
    ((mem_evSpec _ _ _ _).2 (Or.inr ⟨(ch, key), hm ▸ hns, Nat.ne_of_gt hdur, rfl⟩))
  exact ⟨shape_mem h0 (List.mem_append_right _ m1), shape_mem (h1 _ m2) m3⟩

/-- … and nothing else: the channel messages of the `ToSMF0` track are, as a multiset of (tick, message), exactly
    the events and note-offs the text prescribes (`specAll`); those of the `ToSMF1` track of number `n` exactly
    the ones of that track number (`specOn`); the bar track carries none. -/
theorem events_exact (s : Song) (srt : List TEv → List TEv) (hd : Dom s) (hs : SortSpec srt)
    (tr0 bt : Track) (g : Nat → Track) (h : ExportsTo srt s tr0 bt g) :
    ((timeline 0 tr0).filter isEvent).Perm (specAll s) ∧
    (timeline 0 bt).filter isEvent = [] ∧
    ∀ n ∈ usedTracks s, ((timeline 0 (g n)).filter isEvent).Perm (specOn s n) := by
  obtain ⟨h0, hb, h1⟩ := exports_exact s srt hd hs tr0 bt g h
  have e0 := (shape_filter h0 isEvent fun _ => .inl).1
  have eb := (shape_filter hb isEvent fun _ => .inl).1
  rw [List.filter_append, (specSigs_filter s).1, List.nil_append, (specAll_filter s hd _ fun _ h => h).1] at e0
  rw [(specSigs_filter s).1] at eb
  refine ⟨e0, eb.eq_nil, fun n hn => ?_⟩
  have := (shape_filter (h1 n hn) isEvent fun _ => .inl).1
  rwa [(specAll_filter s hd _ (specOn_sub s n)).1] at this

/-- Time-signature events (`FF 58 04 nn log2(dd) 08 08`): the `ToSMF0` track and the bar track of `ToSMF1` carry,
    in this order, exactly one at the start of every bar whose signature differs from the previous bar's (4/4
    before the first bar) — `specSigs s = sigChanges (4,4) (laid …)`; the event tracks carry none. -/
theorem timesig_events (s : Song) (srt : List TEv → List TEv) (hd : Dom s) (hs : SortSpec srt)
    (tr0 bt : Track) (g : Nat → Track) (h : ExportsTo srt s tr0 bt g) :
    (timeline 0 tr0).filter isMeter = specSigs s ∧
    (timeline 0 bt).filter isMeter = specSigs s ∧
    ∀ n ∈ usedTracks s, (timeline 0 (g n)).filter isMeter = [] := by
  obtain ⟨h0, hb, h1⟩ := exports_exact s srt hd hs tr0 bt g h
  have m0 := shape_filter h0 isMeter fun _ => .inr
  have mb := shape_filter hb isMeter fun _ => .inr
  rw [List.filter_append, (specSigs_filter s).2, (specAll_filter s hd _ fun _ h => h).2, List.append_nil] at m0
  rw [(specSigs_filter s).2] at mb
  refine ⟨perm_strict_eq _ _ m0.1 m0.2 (specSigs_strict s hd), perm_strict_eq _ _ mb.1 mb.2 (specSigs_strict s hd),
    fun n hn => ?_⟩
  have := (shape_filter (h1 n hn) isMeter fun _ => .inr).1
  rw [(specAll_filter s hd _ (specOn_sub s n)).2] at this
  exact this.eq_nil

/-- what `sigChanges` says, bar by bar: no event for a bar that keeps the signature, one at its start otherwise -/
theorem sigChanges_step (prev : Nat × Nat) (st : Nat) (b : Bar) (r : List (Nat × Bar)) :
    sigChanges prev ((st, b) :: r) =
      if (b.num, b.den) = prev then sigChanges prev r
      else (st, [0xFF, 0x58, 4, b.num,
        (if b.den = 1 then 0 else if b.den = 2 then 1 else if b.den = 4 then 2 else if b.den = 8 then 3
         else if b.den = 16 then 4 else 5), 8, 8]) :: sigChanges (b.num, b.den) r := rfl

/-- Every track of both exports is terminated by exactly one end-of-track event, its last event, at the tick
    where the last bar ends. -/
theorem tracks_end_at_last_bar (s : Song) (srt : List TEv → List TEv) (hd : Dom s) (hs : SortSpec srt)
    (tr0 bt : Track) (g : Nat → Track) (h : ExportsTo srt s tr0 bt g) :
    ∀ tr, (tr = tr0 ∨ tr = bt ∨ ∃ n ∈ usedTracks s, tr = g n) →
      (timeline 0 tr).getLast? = some (songEnd s, EOT) ∧ (timeline 0 tr).filter isEOT = [(songEnd s, EOT)] := by
  obtain ⟨h0, hb, h1⟩ := exports_exact s srt hd hs tr0 bt g h
  rintro tr (rfl | rfl | ⟨n, hn, rfl⟩)
  · exact shape_eot h0
  · exact shape_eot hb
  · exact shape_eot (h1 n hn)

/-- The single-track and the multi-track export contain the same multiset of (tick, channel message) and of
    (tick, time signature). -/
theorem smf0_smf1_same (s : Song) (srt : List TEv → List TEv) (hd : Dom s) (hs : SortSpec srt)
    (tr0 bt : Track) (g : Nat → Track) (h : ExportsTo srt s tr0 bt g) :
    ((timeline 0 tr0).filter isEvent).Perm (((bt :: (usedTracks s).map g).flatMap (timeline 0)).filter isEvent) ∧
    ((timeline 0 tr0).filter isMeter).Perm (((bt :: (usedTracks s).map g).flatMap (timeline 0)).filter isMeter) := by
  obtain ⟨e1, e2, e3⟩ := events_exact s srt hd hs tr0 bt g h
  obtain ⟨m1, m2, m3⟩ := timesig_events s srt hd hs tr0 bt g h
  simp only [List.flatMap_cons, List.filter_append, List.flatMap_map, List.filter_flatMap]
  constructor
  · rw [e2, List.nil_append]
    refine e1.trans ((specOn_partition s).symm.trans ?_)
    exact (List.flatMap_perm _ _ _ (fun n hn => e3 n hn)).symm
  · rw [m1, m2, List.flatMap_eq_nil_iff.2 m3, List.append_nil]

/-- Songs are built with `AddBar`: a bar given without signature takes the previous one, 4/4 at the beginning;
    whatever sequence of "no signature" and domain signatures is added, all bars of the song have a signature of
    the domain (so `Dom.sigs` is met by every such history) and the events are untouched. -/
theorem addBar_default (q : Nat) (ti co : Bytes) (tn : List Bytes) (bs : List Bar)
    (h : ∀ b ∈ bs, InputSigOK b) :
    (∀ b ∈ (build q ti co tn bs).bars, SigOK b) ∧
    (∀ ev, (build q ti co tn (⟨0, 0, ev⟩ :: bs)).bars.head? =
      (build q ti co tn (⟨4, 4, ev⟩ :: bs)).bars.head?) := by
  refine ⟨foldl_addBar_sigs bs _ (by simp) h, ?_⟩
  intro ev
  simp [build, Song.addBar]

/-! ## Non-vacuity: a concrete song of the domain (two bars of 12/8, one of 3/4, two tracks, a note that ends
    with the song), and the executable model on it. -/

def sample : Song :=
  ⟨480, [0x41], [], [],
   [⟨12, 8, [⟨0, 2, 4, [0x90, 60, 64]⟩, ⟨3, 47, 1, [0xB0, 7, 100]⟩]⟩, ⟨12, 8, []⟩,
    ⟨3, 4, [⟨0, 23, 1, [0x91, 62, 1]⟩]⟩]⟩

private theorem sample_dom : Dom sample := by
  refine ⟨by decide, ?_, ?_, ?_, by decide⟩
  · intro b hb
    simp only [sample, List.mem_cons, List.mem_nil_iff, or_false] at hb
    rcases hb with rfl | rfl | rfl <;> simp [SigOK]
  · intro b hb e he
    simp only [sample, List.mem_cons, List.mem_nil_iff, or_false] at hb
    rcases hb with rfl | rfl | rfl
    · simp only [List.mem_cons, List.mem_nil_iff, or_false] at he
      rcases he with rfl | rfl
      · exact ⟨by decide, by decide, 0x90, [60, 64], rfl, Or.inl rfl⟩
      · exact ⟨by decide, by decide, 0xB0, [7, 100], rfl, Or.inl rfl⟩
    · simp at he
    · simp only [List.mem_cons, List.mem_nil_iff, or_false] at he
      subst he
      exact ⟨by decide, by decide, 0x91, [62, 1], rfl, Or.inl rfl⟩
  · intro sb hsb e he _
    simp only [sample, laid, tq, len32, List.mem_cons, List.mem_nil_iff, or_false] at hsb
    rcases hsb with rfl | rfl | rfl
    · simp only [List.mem_cons, List.mem_nil_iff, or_false] at he
      rcases he with rfl | rfl <;> decide
    · simp at he
    · simp only [List.mem_cons, List.mem_nil_iff, or_false] at he
      subst he
      decide

example : SortSpec tickSort := tickSort_spec

example : songEnd sample = 7200 ∧ (laid (tq sample) 0 sample.bars).map (·.1) = [0, 2880, 5760] := by decide

/-- the theorems at the sample: the note of bar 0 (position 2, duration 4, 60 ticks per thirty-second) sounds from
    tick 120 to tick 360 in both exports, the 3/4 signature is announced at tick 5760, every track ends at 7200 -/
example (tr0 bt : Track) (g : Nat → Track) (h : ExportsTo tickSort sample tr0 bt g) :
    (120, [0x90, 60, 64]) ∈ timeline 0 tr0 ∧ (360, [0x80, 60, 0]) ∈ timeline 0 (g 0) ∧
    (timeline 0 bt).filter isMeter = [(0, [0xFF, 0x58, 4, 12, 3, 8, 8]), (5760, [0xFF, 0x58, 4, 3, 2, 8, 8])] ∧
    (timeline 0 tr0).getLast? = some (7200, [0xFF, 0x2F, 0]) := by
  have hsb : ((0, ⟨12, 8, [⟨0, 2, 4, [0x90, 60, 64]⟩, ⟨3, 47, 1, [0xB0, 7, 100]⟩]⟩) : Nat × Bar) ∈
      laid (tq sample) 0 sample.bars := by simp [sample, laid]
  have h1 := event_tick sample tickSort sample_dom tickSort_spec tr0 bt g h _ hsb ⟨0, 2, 4, [0x90, 60, 64]⟩ (by simp)
  have h2 := noteoff_tick sample tickSort sample_dom tickSort_spec tr0 bt g h _ hsb ⟨0, 2, 4, [0x90, 60, 64]⟩ (by simp)
    0 60 64 rfl (by omega) (by omega) (by omega) (by omega) (by decide)
  have h3 := (timesig_events sample tickSort sample_dom tickSort_spec tr0 bt g h).2.1
  have h4 := (tracks_end_at_last_bar sample tickSort sample_dom tickSort_spec tr0 bt g h tr0 (Or.inl rfl)).1
  refine ⟨by simpa [tq, sample] using h1.1, by simpa [tq, sample] using h2.2, ?_, ?_⟩
  · rw [h3]; decide
  · rw [h4]; decide

end Midi.C20
