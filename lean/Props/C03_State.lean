import MidiModel.Generated.StateShape
import Proofs.StateShapeExpected
/-!
# C03, tie to the source: the state the code keeps has the shape the model assumes
(the packages this property's models read; the comparison is explained in `Props/C01_State.lean`)
-/
namespace Midi.C03
theorem code_state_shape_smf : Midi.StateShape.smf = Midi.StateShapeExpected.smf := rfl
theorem code_state_shape_internal_utils : Midi.StateShape.internal_utils = Midi.StateShapeExpected.internal_utils := rfl
theorem code_state_shape_internal_runningstatus : Midi.StateShape.internal_runningstatus = Midi.StateShapeExpected.internal_runningstatus := rfl
end Midi.C03
