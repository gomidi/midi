import Proofs.SequencerLayout
import Proofs.ListClasses
/-!
# C20 helper lemmas: what the property prescribes for a song of the domain

Of which kind the prescribed messages are, where they lie, and how the used track numbers split them.  Nothing here looks
at the export functions `toSMF0`, `toSMF1`.
-/
namespace Midi.Sequencer
open Midi Midi.Smf

theorem msgOK_class (a : Nat) (m : Msg) (h : MsgOK m) :
    isEvent (a, m) = true ∧ isMeter (a, m) = false ∧ isEOT (a, m) = false := by
  obtain ⟨s, r, rfl, hs⟩ := h
  have h255 : s ≠ 255 := by
    rcases hs with hs | hs | hs
    · intro hc
      subst hc
      revert hs
      decide
    · omega
    · omega
  refine ⟨?_, ?_, by simp [isEOT, EOT, h255]⟩
  · rcases hs with hs | hs | hs <;> simp [isEvent, hs]
  · cases r <;> simp [isMeter, h255]

theorem meter_class (a n d : Nat) :
    isEvent (a, meterBytes n d) = false ∧ isMeter (a, meterBytes n d) = true ∧ isEOT (a, meterBytes n d) = false :=
  ⟨by simp [isEvent, meterBytes, isChanStatus], by simp [isMeter, meterBytes], by simp [isEOT, meterBytes, EOT]⟩

/-- text events (`metaText`, `metaCopyright`, `metaSeqName`: types 1, 2, 3) -/
theorem metaMsg_class (a typ : Nat) (d : Bytes) (h1 : typ ≠ 0x58) (h2 : typ ≠ 0x2F) :
    isEvent (a, metaMsg typ d) = false ∧ isMeter (a, metaMsg typ d) = false ∧ isEOT (a, metaMsg typ d) = false :=
  ⟨by simp [isEvent, metaMsg, isChanStatus], by simp [isMeter, metaMsg, h1], by simp [isEOT, metaMsg, EOT, h2]⟩

section
variable (s : Song) (hd : Dom s)
include hd

theorem dom_t : 1 ≤ tq s ∧ tq s ≤ 8191 := (t32_eq s hd.res).2

theorem dom_placed_sig : ∀ sb ∈ laid (tq s) 0 s.bars, SigOK sb.2 :=
  fun sb h => hd.sigs _ (laid_mem _ _ _ sb h).2.2

theorem dom_event (sb : Nat × Bar) (hsb : sb ∈ laid (tq s) 0 s.bars) (e : Event) (he : e ∈ sb.2.events) :
    e.pos < len32 sb.2 ∧ len32 sb.2 ≤ 255 ∧ e.dur < 256 ∧ MsgOK e.msg := by
  have hb := (laid_mem _ _ _ sb hsb).2.2
  obtain ⟨h1, h2, h3⟩ := hd.evs _ hb e he
  exact ⟨h1, (len32_pos _ (hd.sigs _ hb)).2, h2, h3⟩

theorem specEvents_good (x : TEv) (hx : x ∈ specEvents (tq s) (laid (tq s) 0 s.bars)) :
    x.abs ≤ songEnd s ∧ MsgOK x.msg := by
  simp only [specEvents, List.mem_flatMap] at hx
  obtain ⟨sb, hsb, e, he, hx⟩ := hx
  obtain ⟨h1, h2, h3, h4⟩ := dom_event s hd sb hsb e he
  have hm := laid_mem _ _ _ sb hsb
  rcases (mem_evSpec _ _ _ _).1 hx with rfl | ⟨ck, hns, _, rfl⟩
  · refine ⟨?_, h4⟩
    have : e.pos * tq s ≤ len32 sb.2 * tq s := Nat.mul_le_mul_right _ (by omega)
    show sb.1 + e.pos * tq s ≤ songEnd s
    unfold songEnd; omega
  · exact ⟨hd.notes sb hsb e he (by simp [hns]), noteOff_msgOK _ _ (noteStart_ch _ ck.1 ck.2 hns)⟩

theorem specAll_class (x : Nat × Msg) (hx : x ∈ specAll s) :
    isEvent x = true ∧ isMeter x = false ∧ isEOT x = false := by
  obtain ⟨e, he, rfl⟩ := List.mem_map.1 hx
  exact msgOK_class _ _ (specEvents_good s hd e he).2

omit hd in
theorem specSigs_mem (x : Nat × Msg) (hx : x ∈ specSigs s) :
    ∃ sb ∈ laid (tq s) 0 s.bars, x = (sb.1, meterBytes sb.2.num sb.2.den) := by
  obtain ⟨sb, h1, h2⟩ := List.mem_map.1 ((sigChanges_sublist _ _).subset hx)
  exact ⟨sb, h1, h2.symm⟩

omit hd in
theorem specSigs_class (x : Nat × Msg) (hx : x ∈ specSigs s) :
    isEvent x = false ∧ isMeter x = true ∧ isEOT x = false := by
  obtain ⟨sb, _, rfl⟩ := specSigs_mem s x hx
  exact meter_class _ _ _

omit hd in
theorem specSigs_filter : (specSigs s).filter isEvent = [] ∧ (specSigs s).filter isMeter = specSigs s :=
  ⟨List.filter_eq_nil_iff.2 fun x hx => by simp [(specSigs_class s x hx).1],
    List.filter_eq_self.2 fun x hx => (specSigs_class s x hx).2.1⟩

theorem specAll_filter (l : List (Nat × Msg)) (hl : ∀ x ∈ l, x ∈ specAll s) :
    l.filter isEvent = l ∧ l.filter isMeter = [] :=
  ⟨List.filter_eq_self.2 fun x hx => (specAll_class s hd x (hl x hx)).1,
    List.filter_eq_nil_iff.2 fun x hx => by simp [(specAll_class s hd x (hl x hx)).2.1]⟩

theorem spec_good (x : Nat × Msg) (hx : x ∈ specSigs s ++ specAll s) : x.1 ≤ songEnd s ∧ isEOT x = false := by
  rcases List.mem_append.1 hx with hx | hx
  · refine ⟨?_, (specSigs_class s x hx).2.2⟩
    obtain ⟨sb, hsb, rfl⟩ := specSigs_mem s x hx
    have := laid_mem _ _ _ sb hsb
    show sb.1 ≤ songEnd s
    unfold songEnd; omega
  · refine ⟨?_, (specAll_class s hd x hx).2.2⟩
    obtain ⟨e, he, rfl⟩ := List.mem_map.1 hx
    exact (specEvents_good s hd e he).1

theorem specSigs_strict : (specSigs s).Pairwise (fun a b => a.1 < b.1) := by
  refine List.Pairwise.sublist (sigChanges_sublist _ _) (List.pairwise_map.2 ?_)
  apply (laid_pairwise (tq s) s.bars 0).imp_of_mem
  intro a b ha _ h
  -- a bar of the domain is at least one tick long
  have := Nat.mul_pos (len32_pos a.2 (dom_placed_sig s hd a ha)).1 (dom_t s hd).1
  show a.1 < b.1
  omega

end

theorem mem_insertNo (n x : Nat) : ∀ (l : List Nat), x ∈ insertNo n l ↔ x = n ∨ x ∈ l
  | [] => by simp [insertNo]
  | a :: r => by
    simp only [insertNo]
    split
    · simp
    · split
      · rename_i h1 h2
        subst h2
        simp
      · simp only [List.mem_cons, mem_insertNo n x r]
        exact or_left_comm

theorem insertNo_sorted (n : Nat) : ∀ (l : List Nat), l.Pairwise (· < ·) → (insertNo n l).Pairwise (· < ·)
  | [], _ => by simp [insertNo]
  | a :: r, h => by
    have h' := List.pairwise_cons.1 h
    simp only [insertNo]
    split
    · rename_i hlt
      exact List.Pairwise.cons (fun x hx => by
        rcases List.mem_cons.1 hx with rfl | hx
        · exact hlt
        · exact Nat.lt_trans hlt (h'.1 x hx)) h
    · split
      · exact h
      · refine List.Pairwise.cons (fun x hx => ?_) (insertNo_sorted n r h'.2)
        rcases (mem_insertNo n x r).1 hx with rfl | hx
        · omega
        · exact h'.1 x hx

theorem mem_trackNos (n : Nat) : ∀ (l : List TEv), n ∈ trackNos l ↔ n ∈ l.map (·.trackNo)
  | [] => by simp [trackNos]
  | e :: r => by
    have ih := mem_trackNos n r
    simp only [trackNos, List.foldr_cons] at ih ⊢
    rw [mem_insertNo, ih, List.map_cons, List.mem_cons]

theorem trackNos_sorted : ∀ (l : List TEv), (trackNos l).Pairwise (· < ·)
  | [] => by simp [trackNos]
  | e :: r => insertNo_sorted _ _ (trackNos_sorted r)

theorem trackNos_perm {l₁ l₂ : List TEv} (h : (l₁.map (·.trackNo)).Perm (l₂.map (·.trackNo))) :
    trackNos l₁ = trackNos l₂ :=
  List.Perm.eq_of_pairwise (le := (· < ·)) (fun _ _ _ _ h1 h2 => absurd h1 (Nat.lt_asymm h2))
    (trackNos_sorted _) (trackNos_sorted _)
    ((List.perm_ext_iff_of_nodup ((trackNos_sorted _).imp Nat.ne_of_lt) ((trackNos_sorted _).imp Nat.ne_of_lt)).2
      fun n => by rw [mem_trackNos, mem_trackNos, h.mem_iff])

theorem mem_usedTracks (s : Song) (e : TEv) (he : e ∈ specEvents (tq s) (laid (tq s) 0 s.bars)) :
    e.trackNo ∈ usedTracks s :=
  (mem_trackNos _ _).2 (List.mem_map_of_mem he)

theorem specOn_sub (s : Song) (n : Nat) (x : Nat × Msg) (hx : x ∈ specOn s n) : x ∈ specAll s := by
  obtain ⟨e, he, rfl⟩ := List.mem_map.1 hx
  exact List.mem_map_of_mem (List.mem_filter.1 he).1

theorem spec_mem (s : Song) (sb : Nat × Bar) (hsb : sb ∈ laid (tq s) 0 s.bars) (e : Event) (he : e ∈ sb.2.events)
    (x : TEv) (hx : x ∈ evSpec (tq s) sb.1 e) :
    tm x ∈ specAll s ∧ x.trackNo ∈ usedTracks s ∧ tm x ∈ specOn s x.trackNo := by
  have hm : x ∈ specEvents (tq s) (laid (tq s) 0 s.bars) := by
    simp only [specEvents, List.mem_flatMap]
    exact ⟨sb, hsb, e, he, hx⟩
  exact ⟨List.mem_map_of_mem hm, mem_usedTracks s x hm, List.mem_map_of_mem (List.mem_filter.2 ⟨hm, by simp⟩)⟩

theorem specOn_partition (s : Song) :
    ((usedTracks s).flatMap (specOn s)).Perm (specAll s) := by
  have := List.partition_perm TEv.trackNo (usedTracks s) ((trackNos_sorted _).imp Nat.ne_of_lt)
    (specEvents (tq s) (laid (tq s) 0 s.bars))
  rw [List.filter_eq_self.2 fun e he => decide_eq_true (mem_usedTracks s e he)] at this
  have := (this.map tm).symm
  rwa [List.map_flatMap] at this

end Midi.Sequencer
