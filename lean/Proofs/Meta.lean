import MidiModel.Meta
import Proofs.Vlq
/-! Helper lemmas for C15. -/
namespace Midi.Meta
open Midi

theorem metaMessage_eq (t : Nat) (d : Bytes) :
    metaMessage t d = 0xFF :: t :: (Vlq.encode (d.length % 4294967296) ++ d) := by
  simp [metaMessage]

theorem isType_metaMessage (t b : Nat) (d : Bytes) :
    isType t (metaMessage b d) = (metaTypeOf b != tUnknown && metaTypeOf b == t) := by
  rw [metaMessage_eq]; rfl

theorem length_metaMessage (t : Nat) (d : Bytes) :
    (metaMessage t d).length = 2 + (Vlq.encode (d.length % 4294967296)).length + d.length := by
  simp [metaMessage]; omega

theorem drop2_metaMessage (t : Nat) (d : Bytes) :
    (metaMessage t d).drop 2 = Vlq.encode (d.length % 4294967296) ++ d := by
  simp [metaMessage]

theorem readVarLengthData_enc (d : Bytes) (h : d.length < 4294967296) :
    readVarLengthData (Vlq.encode (d.length % 4294967296) ++ d) = some d := by
  rw [Nat.mod_eq_of_lt h]
  simp [readVarLengthData, Vlq.read_encode d.length h d]

/-- what the accessors with a length-prefixed payload (texts, sequencer data) find behind the two header bytes of a
    constructed event, and the length their guards test: at least three bytes, four with a non-empty payload -/
theorem payload_metaMessage (t : Nat) (d : Bytes) (h : d.length < 4294967296) :
    readVarLengthData ((metaMessage t d).drop 2) = some d ∧ 3 + d.length ≤ (metaMessage t d).length := by
  have := Vlq.encode_length_pos (d.length % 4294967296)
  rw [drop2_metaMessage, readVarLengthData_enc d h, length_metaMessage]
  exact ⟨rfl, by omega⟩

theorem TextKind.type_byte (k : TextKind) : metaTypeOf k.byte = k.type := by
  cases k <;> rfl

theorem TextKind.type_ne (k : TextKind) : (k.type != tUnknown) = true := by
  cases k <;> rfl

theorem TextKind.type_inj (k k' : TextKind) (h : k.type = k'.type) : k = k' := by
  cases k <;> cases k' <;> first | rfl | (exact absurd h (by decide))

theorem denom_pow2 : ∀ e : Fin 8, dec2binDenom (2 ^ e.val) = e.val ∧ bin2decDenom e.val = 2 ^ e.val := by
  decide

theorem getMetaTimeSig_metaTimeSig (n e c q : Nat) (he : e ≤ 7) :
    getMetaTimeSig (metaTimeSig n (2 ^ e) c q) =
      some (n, 2 ^ e, if c = 0 then 8 else c, if q = 0 then 8 else q) := by
  have := denom_pow2 ⟨e, by omega⟩
  simp only at this
  simp [getMetaTimeSig, metaTimeSig, metaMessage, isType, metaTypeOf, Vlq.encode_small, this.1, this.2]

theorem metaKey_ignores_key (k k' : Nat) (maj : Bool) (n : Nat) (fl : Bool) :
    metaKey k maj n fl = metaKey k' maj n fl := rfl

theorem keysig_table : ∀ (n : Fin 8) (maj fl : Bool),
    (Spec.tonic maj fl n.val).isSome = true ∧
    (Spec.tonic maj fl n.val).map (fun pc => (⟨pc, n.val, maj, fl && n.val != 0⟩ : Key)) = getMetaKeySig (metaKey 0 maj n.val fl) := by
  decide +kernel

theorem metaTempoMicros_bytes (u : Nat) (h1 : 1 ≤ u) (h2 : u ≤ 0xFFFFFF) :
    metaTempoMicros u = [0xFF, 0x51, 0x03, u / 65536, u / 256 % 256, u % 256] := by
  have hc : ¬ u > 0x0FFFFFFF := by omega
  have hu : u ≠ 0 := by omega
  unfold metaTempoMicros
  simp only [hc, if_false]
  by_cases ha : u < 256
  · have e1 : u / 256 = 0 := by omega
    have e2 : u / 65536 = 0 := by omega
    have e3 : u % 256 = u := by omega
    simp [bigBytes, bigBytesLE, hu, e1, e2, e3, metaMessage, Vlq.encode_small]
  · by_cases hb : u < 65536
    · have e0 : u / 256 ≠ 0 := by omega
      have e1 : u / 256 / 256 = 0 := by omega
      have e2 : u / 65536 = 0 := by omega
      have e3 : u / 256 % 256 = u / 256 := by omega
      simp [bigBytes, bigBytesLE, hu, e0, e1, e2, e3, metaMessage, Vlq.encode_small]
    · have e0 : u / 256 ≠ 0 := by omega
      have e1 : u / 256 / 256 ≠ 0 := by omega
      have e2 : u / 256 / 256 / 256 = 0 := by omega
      have e3 : u / 256 / 256 % 256 = u / 65536 := by omega
      simp [bigBytes, bigBytesLE, hu, e0, e1, e2, e3, metaMessage, Vlq.encode_small]

theorem getMetaTempo_bytes (b0 b1 b2 : Nat) (h0 : b0 < 256) (h1 : b1 < 256) (h2 : b2 < 256) :
    getMetaTempo [0xFF, 0x51, 0x03, b0, b1, b2] = some (b0 * 65536 + b1 * 256 + b2) := by
  simp [getMetaTempo, isType, metaTypeOf, readUint24]
  omega

theorem getMetaTempo_metaTempoMicros (u : Nat) (h1 : 1 ≤ u) (h2 : u ≤ 0xFFFFFF) :
    getMetaTempo (metaTempoMicros u) = some u := by
  rw [metaTempoMicros_bytes u h1 h2, getMetaTempo_bytes _ _ _ (by omega) (by omega) (by omega)]
  congr 1; omega

/-- `roundDiv a b` is a nearest integer to `a/b`: `|a/b - r| ≤ 1/2`, in integers `2·|a - r·b| ≤ b` -/
theorem roundDiv_nearest (a b : Nat) (hb : 0 < b) :
    2 * (roundDiv a b * b) ≤ 2 * a + b ∧ 2 * a < 2 * (roundDiv a b * b) + b := by
  unfold roundDiv
  have h1 := Nat.div_mul_le_self (2 * a + b) (2 * b)
  have h2 := Nat.lt_div_mul_add (a := 2 * a + b) (b := 2 * b) (by omega)
  have e : (2 * a + b) / (2 * b) * (2 * b) = 2 * ((2 * a + b) / (2 * b) * b) := by
    rw [Nat.mul_left_comm]
  omega

theorem toInt8_range (d : Nat) : -128 ≤ toInt8 d ∧ toInt8 d ≤ 127 := by
  simp only [toInt8]; omega

theorem wrapInt8_range (x : Int) : -128 ≤ wrapInt8 x ∧ wrapInt8 x ≤ 127 := toInt8_range _

theorem wrapInt8_natCast (d : Nat) : wrapInt8 (d : Int) = toInt8 d := by
  simp only [wrapInt8, toInt8]; omega

theorem clampOctave_nonneg : ∀ (n : Nat) (t : Int), -(12 * n : Int) ≤ t → 0 ≤ clampOctave n t
  | 0, t, h => by simpa [clampOctave] using h
  | n + 1, t, h => by
    unfold clampOctave
    split
    · exact clampOctave_nonneg n (t + 12) (by omega)
    · omega

/-- an `int8` is at least -128, minus 3 for minor: 11 rounds suffice -/
theorem clampOctave_reaches : ∀ (b : Fin 256) (minor : Bool),
    0 ≤ clampOctave 11 (if minor then wrapInt8 (toInt8 b.val * 7) - 3 else wrapInt8 (toInt8 b.val * 7)) := by
  intro b minor
  have := wrapInt8_range (toInt8 b.val * 7)
  apply clampOctave_nonneg
  split <;> omega
end Midi.Meta
