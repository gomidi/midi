import Proofs.LiveStep
/-!
# The stamps of what the recording callback can receive

`RecordFrom` listens without options (`recCfg`: sysex off). With the sysex option off no frame carries an older clock than
the byte that completes it (`step_stamp_off`), so with a clock that only moves forward the stamps never decrease and are
bounded by the time elapsed — from any decoder state.
-/
namespace Midi.Record
open Midi.Live

def elapsed : List Tok → Int
  | [] => 0
  | .byte _ :: r => elapsed r
  | .tick d :: r => d + elapsed r

def Forward (toks : List Tok) : Prop := ∀ d, Tok.tick d ∈ toks → 0 ≤ d

theorem elapsed_nonneg (toks : List Tok) (hf : Forward toks) : 0 ≤ elapsed toks := by
  induction toks with
  | nil => exact Int.le_refl 0
  | cons t r ih =>
    have hr := ih fun d hd => hf d (List.mem_cons_of_mem _ hd)
    cases t with
    | byte b => exact hr
    | tick d =>
      have := hf d List.mem_cons_self
      simp only [elapsed]
      omega

theorem feed_stamps (c : Cfg) (hc : c.sysex = false) (toks : List Tok) (hfw : Forward toks) :
    ∀ s, (∀ f ∈ (feed c s toks).2, s.ts ≤ f.2 ∧ f.2 ≤ s.ts + elapsed toks) ∧
      ((feed c s toks).2.map (·.2)).Pairwise (· ≤ ·) := by
  induction toks with
  | nil => intro s; simp [feed]
  | cons t r ih =>
    intro s
    have hr : Forward r := fun d hd => hfw d (List.mem_cons_of_mem _ hd)
    have her := elapsed_nonneg r hr
    cases t with
    | byte b =>
      have now := step_stamp_off c hc s b
      obtain ⟨i1, i2⟩ := ih hr (step c s b).1
      rw [step_ts] at i1
      simp only [feed, stepTok, elapsed]
      constructor
      · intro f hf
        rcases List.mem_append.1 hf with hf | hf
        · have := now f hf; omega
        · exact i1 f hf
      · rw [List.map_append, List.pairwise_append]
        refine ⟨?_, i2, ?_⟩
        · rw [List.pairwise_map]
          exact List.pairwise_of_forall_mem_list fun a ha b' hb' => by rw [now a ha, now b' hb']; exact Int.le_refl _
        · intro x hx y hy
          obtain ⟨f, hf, rfl⟩ := List.mem_map.1 hx
          obtain ⟨g, hg, rfl⟩ := List.mem_map.1 hy
          have := now f hf
          have := (i1 g hg).1
          omega
    | tick d =>
      have hd := hfw d List.mem_cons_self
      obtain ⟨i1, i2⟩ := ih hr { s with ts := s.ts + d }
      simp only [feed, stepTok, elapsed, List.nil_append]
      refine ⟨fun f hf => ?_, i2⟩
      have := i1 f hf
      simp only [] at this
      omega

end Midi.Record
