import MidiModel.GoSem
import Proofs.GoSemAttr
/-!
# Evaluating the operations of `MidiModel/GoSem.lean`

A translated body consumes every primitive through `>>=`. `simp` works bottom-up: in `x >>= f` it simplifies `f` — the
whole rest of the function, its bound variable abstract — before it can use `x = pure a`. The lemmas in bind form are
therefore meant as `↓` rewrites: `x >>= f` becomes `f a` before `f` is looked at, and a body is walked once, from the top,
with the values in place.

Behind a length test a read `a[i]` becomes the total `a[i.toNat]!`: no proof term inside, so the rewrite goes through under
`if`s and binders. A tactic discharger (`simp (disch := omega)`) costs hundreds of thousands of heartbeats per call on terms
of this size: give the bound as an argument instead.
-/
namespace Go

/-- not proved by `rfl` (nor are `idx_0_bind` … below): `simp` would use it as a definitional rule and leave the kernel to
    unfold a whole translated body at once (deep recursion) -/
theorem ok_bind {ε α β : Type} (a : α) (f : α → Except ε β) : (Except.ok a >>= f) = f a := by
  simp only [bind, Except.bind]

theorem bind_eq_of_pure {ε α β : Type} {x : Except ε α} {a : α} (h : x = pure a) (f : α → Except ε β) :
    x >>= f = f a := by
  subst h; rfl

theorem idx_eq {α : Type} [Inhabited α] {a : List α} {i : Int} (h0 : 0 ≤ i) (h : i.toNat < a.length) :
    idx a i = .ok a[i.toNat]! := by
  unfold idx
  rw [if_pos h0, List.getElem?_eq_getElem h, getElem!_pos a _ h]; rfl

theorem idx_nat {α : Type} [Inhabited α] {a : List α} {k : Nat} (h : k < a.length) : idx a (k : Int) = .ok a[k]! :=
  idx_eq (Int.natCast_nonneg k) h

theorem idx_of_le {α : Type} [Inhabited α] {a : List α} {m : Nat} (hm : m ≤ a.length) {i : Int} (h0 : 0 ≤ i)
    (h : i.toNat < m) : idx a i = .ok a[i.toNat]! :=
  idx_eq h0 (Nat.lt_of_lt_of_le h hm)

theorem idx_some {α : Type} {a : List α} {k : Nat} {v : α} (h : a[k]? = some v) : idx a (k : Int) = pure v := by
  simp [idx, h]

theorem idx_none {α : Type} {a : List α} {k : Nat} (h : a[k]? = none) :
    idx a (k : Int) = throw "index out of range" := by
  simp [idx, h]

theorem idx_0_bind {α β : Type} (a : α) (l : List α) (f : α → Except String β) : idx (a :: l) 0 >>= f = f a :=
  ok_bind a f
theorem idx_1_bind {α β : Type} (a b : α) (l : List α) (f : α → Except String β) : idx (a :: b :: l) 1 >>= f = f b :=
  ok_bind b f
theorem idx_2_bind {α β : Type} (a b c : α) (l : List α) (f : α → Except String β) :
    idx (a :: b :: c :: l) 2 >>= f = f c :=
  ok_bind c f
theorem idx_3_bind {α β : Type} (a b c d : α) (l : List α) (f : α → Except String β) :
    idx (a :: b :: c :: d :: l) 3 >>= f = f d :=
  ok_bind d f
theorem idx_4_bind {α β : Type} (a b c d e : α) (l : List α) (f : α → Except String β) :
    idx (a :: b :: c :: d :: e :: l) 4 >>= f = f e :=
  ok_bind e f

theorem setIdx_eq {α : Type} {a : List α} {i : Int} (v : α) (h0 : 0 ≤ i) (h : i.toNat < a.length) :
    setIdx a i v = .ok (a.set i.toNat v) := by
  unfold setIdx; rw [if_pos ⟨h0, h⟩]; rfl

theorem setIdx_nat {α : Type} {a : List α} {k : Nat} (v : α) (h : k < a.length) :
    setIdx a (k : Int) v = .ok (a.set k v) :=
  setIdx_eq v (Int.natCast_nonneg k) h

theorem slice_eq {α : Type} {a : List α} {lo hi : Int} (h0 : 0 ≤ lo) (h : lo ≤ hi) (h' : hi.toNat ≤ a.length) :
    slice a lo hi = .ok ((a.take hi.toNat).drop lo.toNat) := by
  unfold slice; rw [if_pos ⟨h0, h, h'⟩]; rfl

theorem wrapS_of_range (n : Nat) (hn : 0 < n) (x : Int) (h1 : -(2 ^ (n - 1) : Int) ≤ x) (h2 : x < 2 ^ (n - 1)) :
    wrapS n x = x := by
  unfold wrapS
  have e : (2 : Int) ^ n = 2 * 2 ^ (n - 1) := by
    rw [← Int.pow_succ']; congr 1; omega
  rw [Int.emod_eq_of_lt (by omega) (by omega)]; omega

theorem wrapS64_of_range (x : Int) (h1 : -9223372036854775808 ≤ x) (h2 : x < 9223372036854775808) : wrapS 64 x = x :=
  wrapS_of_range 64 (by decide) x h1 h2

/-- `len(a) - k` in `int`, which has 64 bits here: no wrap. Any bound on `n` up to 2^63 would do; `2 ^ 62` is the one the ties
    state of their lengths, written out as 4611686018427387904. -/
theorem wrapS64_sub {n k : Nat} (hk : k ≤ n) (hn : n < 2 ^ 62) :
    wrapS 64 ((n : Int) - (k : Int)) = ((n - k : Nat) : Int) := by
  unfold wrapS; omega

theorem wrapS64_succ (k : Nat) (h : k < 2 ^ 62) : wrapS 64 ((k : Int) + 1) = ((k + 1 : Nat) : Int) := by
  unfold wrapS; omega

theorem wrapS32_add_left (x y : Int) : wrapS 32 (wrapS 32 x + y) = wrapS 32 (x + y) := by
  unfold wrapS; omega

/-- `uint32(len(a))`, `byte(n)` -/
theorem toU_natCast (n k : Nat) : toU n (k : Int) = k % 2 ^ n := by
  unfold toU
  rw [show (2 : Int) ^ n = ((2 ^ n : Nat) : Int) by simp, ← Int.natCast_emod]
  exact Int.toNat_natCast _

/-- `uint32(int32(x))`: the signed wrap leaves the residue alone -/
theorem toU_wrapS (n : Nat) (x : Int) : toU n (wrapS n x) = toU n x := by
  unfold toU wrapS
  rw [Int.emod_sub_emod, Int.add_sub_cancel]

/-- the loop `for _, b := range bt { su += int32(b) }`: the signed wrap of the mathematical sum -/
theorem foldl_wrapS32 (l : List Nat) (x : Int) :
    l.foldl (fun (su : Int) (b : Nat) => wrapS 32 (su + (b : Int))) (wrapS 32 x) = wrapS 32 (x + (l.sum : Nat)) := by
  induction l generalizing x with
  | nil => simp
  | cons b r ih => rw [List.foldl_cons, wrapS32_add_left, ih, List.sum_cons, Int.natCast_add, Int.add_assoc]

/-- the translator's guard around `*p = v` (`if p != nil { …; *p = v }`, the inner test is its own nil check): the nil
    check inside the non-nil branch is dead. As a `↓` rewrite it halves the paths before `simp` walks them. -/
theorem nil_guard {α : Type} (n : Bool) (x y z : α) :
    (if n = false then (if n = true then x else y) else z) = (if n = true then z else y) := by
  cases n <;> rfl

end Go

/-! the fixed part of every such evaluation, as one simp set: `simp only [go_eval, ↓reduceIte, ↓Go.bind_eq_of_pure h, …]`
(`reduceIte` is a simproc of core; naming it in an attribute would need `import Lean`) -/
attribute [go_eval ↓] Go.nil_guard Go.idx_0_bind Go.idx_1_bind Go.idx_2_bind Go.idx_3_bind Go.idx_4_bind
attribute [go_eval] not_true_eq_false not_false_eq_true ne_eq Bool.false_eq_true Bool.not_true Bool.not_false
