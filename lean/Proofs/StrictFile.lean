import MidiModel.Strict
import Proofs.SmfFile
/-! The strict parser accepts what the writer model emits and recovers the written content; then the domain of C03,
    `C03.StrictDom`, the twin of `Smf.Dom` within the bounds of the strict format. -/
namespace Midi.Strict
open Midi.Vlq Midi.Smf

/-- the canonical parser on a digit string: up to three continuation digits, the first not a bare `0x80` -/
theorem vlq_digits (ds : List Nat) (lo : Nat) (rest : Bytes) (hds : ∀ d ∈ ds, 128 ≤ d ∧ d < 256) (hlen : ds.length ≤ 3)
    (hhead : ∀ d ∈ ds.head?, d ≠ 128) (hlo : lo < 128) : vlq (ds ++ lo :: rest) = some (valBE 0 ds * 128 + lo, rest) := by
  -- `vlq` subtracts 128 from a continuation digit, `valBE` takes it modulo 128
  have hm : ∀ d ∈ ds, d % 128 = d - 128 ∧ ¬ d < 128 ∧ ¬ 256 ≤ d := by
    intro d hd
    have := hds d hd
    omega
  match ds, hlen with
  | [], _ => simp [vlq, hlo, valBE]
  | [d0], _ =>
    have b : d0 ≠ 128 := hhead d0 (by simp)
    simp [vlq, hm d0 (by simp), b, hlo, valBE]
  | [d0, d1], _ =>
    have b : d0 ≠ 128 := hhead d0 (by simp)
    simp [vlq, hm d0 (by simp), hm d1 (by simp), b, hlo, valBE]
  | [d0, d1, d2], _ =>
    have b : d0 ≠ 128 := hhead d0 (by simp)
    simp [vlq, hm d0 (by simp), hm d1 (by simp), hm d2 (by simp), b, hlo, valBE]

theorem vlq_encode (n : Nat) (h : n < 268435456) (rest : Bytes) : vlq (encode n ++ rest) = some (n, rest) := by
  have hq : n / 128 < 128 ^ 3 := div_lt_pow128 (by omega)
  have hq5 : n / 128 < 128 ^ 5 := Nat.lt_trans hq (by decide)
  obtain ⟨hv, hd⟩ := tailLE_val 5 (n / 128) hq5
  have := vlq_digits (tailLE 5 (n / 128)).reverse (n % 128) rest
    (fun d hd' => hd d (List.mem_reverse.mp hd'))
    (by simpa using tailLE_length_le_of_lt 5 3 _ hq)
    (by simpa using tailLE_getLast 5 _ hq5)
    (by omega)
  simp only [encode, List.reverse_cons, List.append_assoc, List.singleton_append]
  rw [this, hv]
  congr 2
  omega

def payloadLen : Ev → Nat
  | .chan _ _ _ => 0
  | .metaEv _ d => d.length
  | .sysex _ d => d.length

/-- extra bounds of the strict format: deltas and payload lengths fit the 4-byte VLQ -/
def SBodyOK (body : ATrack) : Prop := ∀ x ∈ body, x.1 < 268435456 ∧ payloadLen x.2 < 268435456

theorem chanTail_enc (δ s d1 : Nat) (d2 : Option Nat) (rest : Bytes) (hv : (Ev.chan s d1 d2).Valid) :
    chanTail δ s d1 (d2.toList ++ rest) = some ⟨⟨δ, (Ev.chan s d1 d2).toBytes⟩, s, rest, false⟩ := by
  obtain ⟨_, _, h3, h4⟩ := hv
  cases d2 with
  | none =>
    simp only [oneData, Bool.or_eq_true, decide_eq_true_eq] at h4
    simp [chanTail, dataByte, h3, h4, Ev.toBytes]
  | some d =>
    obtain ⟨h5, h6⟩ := h4
    simp only [oneData, Bool.or_eq_false_iff, decide_eq_false_iff_not] at h5
    simp [chanTail, dataByte, h3, h5, h6, Ev.toBytes]

theorem event_enc (rsOn : Bool) (rs rr δ : Nat) (e : Ev) (rest : Bytes)
    (hv : e.Valid) (hne : e.notEOT) (hδ : δ < 268435456) (hp : payloadLen e < 268435456)
    (hrr : rsOn = true → rr = rs) :
    event rr (encode δ ++ (encBody rsOn rs e).1 ++ rest)
      = some ⟨⟨δ, e.toBytes⟩, statusOr0 e, rest, false⟩ := by
  unfold event
  simp only [List.append_assoc, vlq_encode δ hδ]
  cases e with
  | metaEv t d =>
    simp only [payloadLen] at hp
    simp only [Ev.notEOT] at hne
    simp [encBody, vlq_encode d.length hp, Ev.toBytes, statusOr0, hne]
  | sysex l d =>
    obtain ⟨hl, _⟩ := hv
    simp only [payloadLen] at hp
    rcases hl with rfl | rfl <;> simp [encBody, vlq_encode d.length hp, Ev.toBytes, statusOr0]
  | chan s d1 d2 =>
    have htail := chanTail_enc δ s d1 d2 rest hv
    obtain ⟨h1, h2, h3, _⟩ := hv
    by_cases hel : rsOn = true ∧ s = rs
    · obtain ⟨hon, rfl⟩ := hel
      obtain rfl : rr = s := hrr hon
      have hdFF : d1 ≠ 0xFF := by omega
      have hdF0 : ¬ (d1 = 0xF0 ∨ d1 = 0xF7) := by omega
      have hdst : ¬ (0x80 ≤ d1 ∧ d1 ≤ 0xEF) := by omega
      have hs0 : rr ≠ 0 := by omega
      cases d2 <;> simpa [encBody, hon, hdFF, hdF0, hdst, hs0, h3, statusOr0] using htail
    · have hsFF : s ≠ 0xFF := by omega
      have hsF0 : ¬ (s = 0xF0 ∨ s = 0xF7) := by omega
      cases d2 <;> simpa [encBody, hel, hsFF, hsF0, h1, h2, statusOr0] using htail

theorem event_eot (rr δ : Nat) (hδ : δ < 268435456) :
    event rr (encode δ ++ EOT) = some ⟨⟨δ, EOT⟩, 0, [], true⟩ := by
  unfold event
  rw [vlq_encode δ hδ EOT]
  simp [EOT, vlq]

theorem events_track (rsOn : Bool) (body : ATrack) (δe : Nat) (hδ : δe < 268435456)
    (hb : BodyOK body) (hs : SBodyOK body) :
    ∀ (rs rr fuel : Nat), (rsOn = true → rr = rs) → body.length < fuel →
    events fuel rr (encBodyL rsOn rs body ++ (encode δe ++ EOT)) = some (body.map evOf ++ [⟨δe, EOT⟩]) := by
  induction body with
  | nil =>
    intro rs rr fuel _ hf
    cases fuel with
    | zero => omega
    | succ f => simp [encBodyL, events, event_eot rr δe hδ]
  | cons x body ih =>
    intro rs rr fuel hrr hf
    obtain ⟨δ, e⟩ := x
    obtain ⟨hv, hne, _⟩ := hb (δ, e) (by simp)
    obtain ⟨hd, hp⟩ := hs (δ, e) (by simp)
    cases fuel with
    | zero => omega
    | succ f =>
      have hev := event_enc rsOn rs rr δ e (encBodyL rsOn (encBody rsOn rs e).2 body ++ (encode δe ++ EOT))
        hv hne hd hp hrr
      have hnext := ih (fun y hy => hb y (by simp [hy])) (fun y hy => hs y (by simp [hy]))
        (encBody rsOn rs e).2 (statusOr0 e) f
        (by intro h; subst h; exact (encBody_status rs e).symm) (by simp at hf; omega)
      simp only [encBodyL, List.append_assoc] at hev ⊢
      simp [events, hev, hnext, evOf]

theorem be32val_be32 (n : Nat) (h : n < 4294967296) : be32val (be32 n) = some n := by
  have g : ¬ (n / 16777216 % 256 ≥ 256 ∨ n / 65536 % 256 ≥ 256 ∨ n / 256 % 256 ≥ 256 ∨ n % 256 ≥ 256) := by omega
  have hd := lenOf4_be32 n h
  simp only [be32, lenOf4] at hd
  simp only [be32, be32val, g, if_false, hd]

def SClosedOK (t : Track) : Prop :=
  ∃ (body : ATrack) (δe : Nat), BodyOK body ∧ SBodyOK body ∧ δe < 268435456 ∧ t = body.map evOf ++ [⟨δe, EOT⟩]

theorem SClosedOK.closedOK {t : Track} (h : SClosedOK t) : ClosedOK t := by
  obtain ⟨body, δe, hb, _, hδ, rfl⟩ := h
  exact ⟨body, δe, hb, by omega, rfl⟩

theorem take4_append (l Y : Bytes) (h : l.length = 4) : take4 (l ++ Y) = some (l, Y) := by
  have : ¬ (l ++ Y).length < 4 := by simp only [List.length_append]; omega
  rw [take4, if_neg this, ← h, List.take_left, List.drop_left]

theorem chunk1_enc (B X : Bytes) (t : Track) (hlen : B.length < 4294967296) (hev : events (B.length + 1) 0 B = some t) :
    chunk1 (encChunk MTrk B ++ X) = some (t, X) := by
  have g2 : ¬ ((B ++ X).length < B.length) := by simp
  simp only [encChunk, Nat.mod_eq_of_lt hlen, List.append_assoc, chunk1, take4_append MTrk _ rfl,
    take4_append (be32 B.length) _ rfl, be32val_be32 _ hlen]
  rw [if_neg (by simp), if_neg g2, List.take_left, List.drop_left, hev]

theorem chunks_enc (rsOn : Bool) (ts : List Track)
    (h : ∀ t ∈ ts, SClosedOK t ∧ (trackBody rsOn t).length < 4294967296) :
    chunks ts.length ((ts.map (trackChunk rsOn)).flatten) = some ts := by
  induction ts with
  | nil => simp [chunks]
  | cons t ts ih =>
    obtain ⟨⟨body, δe, hb, hsb, hδ, rfl⟩, hlen⟩ := h _ (List.mem_cons_self ..)
    have ih' := ih (fun c hc => h c (List.mem_cons_of_mem _ hc))
    have hB := trackBody_closed rsOn body δe hb (by omega)
    have hev := events_track rsOn body δe hδ hb hsb 0 0 ((trackBody rsOn (body.map evOf ++ [⟨δe, EOT⟩])).length + 1)
      (fun _ => rfl) (by have := encBodyL_length rsOn body 0; simp only [hB, List.length_append]; omega)
    rw [← hB] at hev
    simp only [List.length_cons, List.map_cons, List.flatten_cons, chunks, trackChunk, chunk1_enc _ _ _ hlen hev, ih']

/-- time divisions the SMF 1.0 text allows -/
def StrictTF : TimeFormat → Prop
  | .metric q => 1 ≤ q ∧ q ≤ 32767
  | .smpte fps sub => (fps = 24 ∨ fps = 25 ∨ fps = 29 ∨ fps = 30) ∧ sub < 256

theorem division_be16 (q : Nat) (h1 : 1 ≤ q) (h2 : q ≤ 32767) : division (q / 256 % 256) (q % 256) = some (.metric q) := by
  have a : ¬ (q / 256 % 256 ≥ 256 ∨ q % 256 ≥ 256) := by omega
  have b : q / 256 % 256 < 128 := by omega
  have c : ¬ q = 0 := by omega
  rw [division, if_neg a, if_pos b, be16_dec q (by omega), if_neg c]

theorem division_smpte (fps sub : Nat) (hf : fps = 24 ∨ fps = 25 ∨ fps = 29 ∨ fps = 30) (hs : sub < 256) :
    division (256 - fps) sub = some (.smpte fps sub) := by
  have a : ¬ (256 - fps ≥ 256 ∨ sub ≥ 256) := by omega
  have b : ¬ (256 - fps < 128) := by omega
  have e : 256 - (256 - fps) = fps := by omega
  simp only [division, if_neg a, if_neg b, e, if_pos hf]

theorem rawDivision_enc (tf : TimeFormat) (h : StrictTF tf) (rest : Bytes) :
    rawDivision (encTimeFormat tf ++ rest) = some (tf, rest) := by
  cases tf with
  | metric q =>
    rw [encTimeFormat_metric q h.1 h.2]
    simp only [be16, List.cons_append, rawDivision, division_be16 q h.1 h.2, Option.map_some, List.nil_append]
  | smpte fps sub =>
    have hf := h.1
    rw [encTimeFormat_smpte fps sub (by omega) (by omega) h.2]
    simp only [List.cons_append, rawDivision, division_smpte fps sub hf h.2, Option.map_some, List.nil_append]

theorem take2_be16 (n : Nat) (h : n < 65536) (rest : Bytes) : take2 (be16 n ++ rest) = some (n, rest) := by
  have a : ¬ (n / 256 % 256 ≥ 256 ∨ n % 256 ≥ 256) := by omega
  simp [take2, be16, a, be16_dec n h]

theorem parse_enc (rsOn : Bool) (fmt : Nat) (tf : TimeFormat) (ts : List Track)
    (hfmt : fmt ≤ 2) (hf0 : fmt = 0 → ts.length = 1) (htf : StrictTF tf) (hne : ts ≠ []) (hn : ts.length < 65536)
    (hs : ∀ t ∈ ts, SClosedOK t ∧ (trackBody rsOn t).length < 4294967296) :
    parse (encHeader fmt ts.length tf ++ (ts.map (trackChunk rsOn)).flatten) = some ⟨fmt, tf, ts⟩ := by
  have hb6 : be32 (6 % 4294967296) = [0, 0, 0, 6] := by decide
  have hl : (be16 fmt ++ be16 ts.length ++ encTimeFormat tf).length = 6 := by
    cases tf <;> simp [be16, encTimeFormat]
  have hc := chunks_enc rsOn ts hs
  have g : ¬ (fmt > 2 ∨ ts.length = 0 ∨ (fmt = 0 ∧ ts.length ≠ 1)) := by
    intro h
    rcases h with h | h | ⟨h1, h2⟩
    · omega
    · exact hne (List.eq_nil_of_length_eq_zero h)
    · exact h2 (hf0 h1)
  simp only [encHeader, encChunk, hl, hb6]
  simp only [List.append_assoc, parse, take4_append MThd _ rfl, take4_append [0, 0, 0, 6] _ rfl,
    take2_be16 fmt (by omega), take2_be16 ts.length hn, rawDivision_enc tf htf, hc]
  rw [if_neg (by simp), if_neg g]

theorem StrictTF.valid {tf : TimeFormat} (h : StrictTF tf) : ValidTF tf := by
  cases tf with
  | metric q => exact h
  | smpte fps sub =>
    have hf := h.1
    exact ⟨by omega, by omega, h.2⟩

end Midi.Strict

namespace Midi.C03
open Midi Midi.Smf Midi.Strict

def STrackOK (t : Track) : Prop :=
  ∃ body : ATrack, BodyOK body ∧ SBodyOK body ∧
    (t = body.map evOf ∨ ∃ δe, δe < 268435456 ∧ t = body.map evOf ++ [⟨δe, EOT⟩])

theorem STrackOK.trackOK {t : Track} (h : STrackOK t) : TrackOK t := by
  obtain ⟨body, hb, _, h⟩ := h
  exact ⟨body, hb, h.imp_right fun ⟨δe, hδ, e⟩ => ⟨δe, by omega, e⟩⟩

/-- the twin of `TrackOK.closed` within the bounds of the strict format -/
theorem STrackOK.closed {t : Track} (h : STrackOK t) : SClosedOK (t.close 0) := by
  obtain ⟨body, hb, hsb, rfl | ⟨δe, hδ, rfl⟩⟩ := h
  · exact ⟨body, 0, hb, hsb, by omega, close_open _ _ (body_open body hb)⟩
  · exact ⟨body, δe, hb, hsb, hδ, close_closed _ δe 0⟩

structure StrictDom (rsOn : Bool) (s : File) : Prop where
  fmt : s.format ≤ 2
  tf : StrictTF s.tf
  nonempty : s.tracks ≠ []
  count : s.tracks.length < 65536
  tracks : ∀ t ∈ s.tracks, STrackOK t
  /-- the chunk length field has 32 bits: a bound on the bytes `encTrackBody` returns for the tracks as `WriteTo` closes
      them (on `trackBody`, its `getD []`, the bound would be vacuous where the writer panics) -/
  chunkSize : ∀ t ∈ s.prepared.tracks, ∀ b, encTrackBody rsOn 0 t = some b → b.length < 4294967296

theorem StrictDom.dom {rsOn : Bool} {s : File} (h : StrictDom rsOn s) : Dom s :=
  ⟨h.fmt, h.tf.valid, h.nonempty, h.count, fun t ht => (h.tracks t ht).trackOK⟩

end Midi.C03
