import MidiModel.Play
import Props.C08_Smf
/-!
# C12, tie to the source: `smf.Message.IsPlayable` (`smf/message.go`) — the filter `MultiPlay` applies to every event — as
translated is the model's `Play.isPlayable`, for every byte string: no meta event, and only messages whose first byte has a
type above `UnknownMsg`.
-/
namespace Midi.C12
open Midi Midi.Go Midi.Msg

theorem typeKnown_eq (b : Nat) : Play.typeKnown b = !decide (typeOfStatus b ≤ 0) := by
  by_cases h : b < 256
  · revert b
    decide +kernel
  · rw [typeOfStatus_big b (by omega)]
    unfold Play.typeKnown
    simp
    omega

theorem code_smf_IsPlayable (m : Bytes) : smf.Message.IsPlayable m = .ok (Play.isPlayable m) := by
  unfold smf.Message.IsPlayable smf.Message.IsMeta
  rcases m with _ | ⟨b, r⟩
  · rfl
  · have hl := Midi.C08.len_cons_ne_zero b r
    by_cases hb : b = 255
    · subst hb
      simp only [hl, ↓reduceIte, go_eval, decide_true]
      rfl
    · obtain ⟨t, h1, h2⟩ := Midi.C08.code_smf_Type (b :: r)
      rw [smfGetType_plain b r hb] at h1
      cases h1
      have hp : Play.isPlayable (b :: r) = !decide (typeOfStatus b ≤ 0) := by
        rw [← typeKnown_eq b]
        simp [Play.isPlayable, Play.isMeta, hb]
      simp only [hl, hb, ↓reduceIte, go_eval, decide_false, ↓Go.bind_eq_of_pure h2, pure_bind, hp]
      by_cases hle : typeOfStatus b ≤ 0
      · rw [if_pos hle, decide_eq_true hle]
        rfl
      · rw [if_neg hle, decide_eq_false hle]
        rfl

end Midi.C12
