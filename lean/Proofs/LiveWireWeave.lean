import Proofs.LiveWireSpec
/-!
# Every chunking of a legal wire sequence is a legal wire sequence

The wire model puts ticks (chunk borders) into the gaps of the items and between the items, and nothing is lost by that:
whatever token stream has the bytes of a legal item sequence — however they are cut into `EachMessage` calls, whatever the
deltas — is the token stream of a legal item sequence (`weave_items`).
-/
namespace Midi.LiveWire
open Midi.Live

def tickItems (tk : List Int) : List Item := tk.map Item.tick
def tickToks (tk : List Int) : List Tok := tk.map Tok.tick

theorem wireToks_tickItems (tk : List Int) (l : List Item) :
    wireToks (tickItems tk ++ l) = tickToks tk ++ wireToks l := by
  induction tk with
  | nil => rfl
  | cons d tk ih => simp only [tickItems, tickToks, List.map_cons, List.cons_append, wireToks, Item.toks] at ih ⊢; rw [ih]; rfl

theorem wfFrom_tickItems (bs run : Nat) (tk : List Int) (l : List Item) :
    wfFrom bs run (tickItems tk ++ l) = wfFrom bs run l := by
  induction tk with
  | nil => rfl
  | cons d tk ih => simp only [tickItems, List.map_cons, List.cons_append, wfFrom, Item.ok, Item.runAfter, Bool.true_and] at ih ⊢; exact ih

theorem runAfterAll_tickItems (run : Nat) (tk : List Int) (l : List Item) :
    runAfterAll run (tickItems tk ++ l) = runAfterAll run l := by
  induction tk with
  | nil => rfl
  | cons d tk ih => simp only [tickItems, List.map_cons, List.cons_append, runAfterAll, Item.runAfter] at ih ⊢; exact ih

theorem gapOk_tickToks (tk : List Int) : gapOk (tickToks tk) = true := by
  induction tk with
  | nil => rfl
  | cons d tk ih => simpa [tickToks, gapOk] using ih

theorem gapOk_append (a b : Gap) : gapOk (a ++ b) = (gapOk a && gapOk b) := by
  induction a with
  | nil => simp [gapOk]
  | cons x a ih => cases x <;> simp [gapOk, ih, Bool.and_assoc]

theorem toks_no_bytes (toks : List Tok) (h : bytesOf toks = []) : ∃ tk, toks = tickToks tk := by
  induction toks with
  | nil => exact ⟨[], rfl⟩
  | cons x r ih =>
    cases x with
    | byte b => simp [bytesOf] at h
    | tick d =>
      obtain ⟨tk, e⟩ := ih (by simpa [bytesOf] using h)
      exact ⟨d :: tk, by rw [e]; rfl⟩

theorem toks_first_byte (toks : List Tok) (b : Nat) (rest : Bytes) (h : bytesOf toks = b :: rest) :
    ∃ tk toks', toks = tickToks tk ++ Tok.byte b :: toks' ∧ bytesOf toks' = rest := by
  induction toks with
  | nil => simp [bytesOf] at h
  | cons x r ih =>
    cases x with
    | byte b' =>
      simp only [bytesOf, List.cons.injEq] at h
      exact ⟨[], r, by rw [h.1]; rfl, h.2⟩
    | tick d =>
      obtain ⟨tk, toks', e, hb⟩ := ih (by simpa [bytesOf] using h)
      exact ⟨d :: tk, toks', by rw [e]; rfl, hb⟩

theorem weave_gap (g : Gap) (hg : gapOk g = true) (b : Nat) (rest : Bytes) :
    ∀ toks : List Tok, bytesOf toks = bytesOf g ++ b :: rest →
      ∃ g' toks', toks = g' ++ Tok.byte b :: toks' ∧ gapOk g' = true ∧ bytesOf toks' = rest := by
  induction g with
  | nil =>
    intro toks h
    obtain ⟨tk, toks', e, hb⟩ := toks_first_byte toks b rest (by simpa [bytesOf] using h)
    exact ⟨tickToks tk, toks', e, gapOk_tickToks tk, hb⟩
  | cons x g ih =>
    cases x with
    | tick d => intro toks h; exact ih (by simpa [gapOk] using hg) toks (by simpa [bytesOf] using h)
    | byte r =>
      intro toks h
      simp only [gapOk, Bool.and_eq_true, decide_eq_true_eq] at hg
      obtain ⟨tk, toks1, e1, hb1⟩ := toks_first_byte toks r _ (by simpa [bytesOf] using h)
      obtain ⟨g1, toks', e2, hg1, hb⟩ := ih hg.2 toks1 hb1
      refine ⟨tickToks tk ++ Tok.byte r :: g1, toks', ?_, ?_, hb⟩
      · rw [e1, e2]; simp
      · rw [gapOk_append, gapOk_tickToks]; simp [gapOk, hg.1, hg1]

theorem weave_body (body : Body) (hb : bodyOk body = true) (rest : Bytes) :
    ∀ toks : List Tok, bytesOf toks = bytesOf (bodyToks body) ++ rest →
      ∃ body' toks', toks = bodyToks body' ++ toks' ∧ bodyOk body' = true ∧ body'.length = body.length ∧
        bytesOf toks' = rest := by
  induction body with
  | nil => intro toks h; exact ⟨[], toks, rfl, rfl, rfl, by simpa [bodyToks, bytesOf] using h⟩
  | cons p r ih =>
    obtain ⟨g, d⟩ := p
    intro toks h
    obtain ⟨hg, hd, hr⟩ := bodyOk_cons hb
    have h' : bytesOf toks = bytesOf g ++ d :: (bytesOf (bodyToks r) ++ rest) := by
      rw [h]; simp [bodyToks, bytesOf_append, bytesOf]
    obtain ⟨g', toks1, e1, hg', hb1⟩ := weave_gap g hg d _ toks h'
    obtain ⟨r', toks', e2, hr', hl, hb'⟩ := ih hr toks1 hb1
    refine ⟨(g', d) :: r', toks', ?_, ?_, ?_, hb'⟩
    · rw [e1, e2]; simp [bodyToks]
    · simp [bodyOk, hg', hd, hr']
    · simp [hl]

/-- one item, re-chunked: a legal item sequence (ticks, then the item with new gaps) with the same running status -/
theorem weave_item (bs run : Nat) (it : Item) (hok : it.ok bs run = true) (rest : Bytes) (toks : List Tok)
    (h : bytesOf toks = bytesOf it.toks ++ rest) :
    ∃ its' toks', toks = wireToks its' ++ toks' ∧ (∀ l, wfFrom bs run (its' ++ l) = wfFrom bs (it.runAfter run) l) ∧
      bytesOf toks' = rest := by
  cases it with
  | tick d => exact ⟨[], toks, rfl, fun l => rfl, by simpa [Item.toks, bytesOf] using h⟩
  | rt b =>
    obtain ⟨tk, toks', e, hb⟩ := toks_first_byte toks b rest (by simpa [Item.toks, bytesOf] using h)
    refine ⟨tickItems tk ++ [.rt b], toks', ?_, ?_, hb⟩
    · rw [wireToks_tickItems, e]; simp [wireToks, Item.toks]
    · intro l
      rw [List.append_assoc, wfFrom_tickItems]
      simp only [Item.ok] at hok
      simp [wfFrom, Item.ok, hok, Item.runAfter]
  | chan st e body =>
    simp only [Item.ok, Bool.and_eq_true, decide_eq_true_eq] at hok
    obtain ⟨⟨⟨⟨h1, h2⟩, he⟩, hlen⟩, hb⟩ := hok
    cases e with
    | true =>
      obtain ⟨body', toks', e1, hb', hl, hbt⟩ := weave_body body hb rest toks (by simpa [Item.toks] using h)
      refine ⟨[.chan st true body'], toks', ?_, ?_, hbt⟩
      · rw [e1]; simp [wireToks, Item.toks]
      · intro l
        simp only [Bool.not_true, Bool.false_or, decide_eq_true_eq] at he
        simp [wfFrom, Item.ok, Item.runAfter, h1, h2, he, hl, hlen, hb']
    | false =>
      obtain ⟨tk, toks1, e0, hb0⟩ := toks_first_byte toks st (bytesOf (bodyToks body) ++ rest)
        (by simpa [Item.toks, bytesOf, bytesOf_append] using h)
      obtain ⟨body', toks', e1, hb', hl, hbt⟩ := weave_body body hb rest toks1 hb0
      refine ⟨tickItems tk ++ [.chan st false body'], toks', ?_, ?_, hbt⟩
      · rw [wireToks_tickItems, e0, e1]; simp [wireToks, Item.toks]
      · intro l
        rw [List.append_assoc, wfFrom_tickItems]
        simp [wfFrom, Item.ok, Item.runAfter, h1, h2, hl, hlen, hb']
  | sysc st body =>
    simp only [Item.ok, Bool.and_eq_true, decide_eq_true_eq] at hok
    obtain ⟨hlen, hb⟩ := hok
    obtain ⟨tk, toks1, e0, hb0⟩ := toks_first_byte toks st (bytesOf (bodyToks body) ++ rest)
      (by simpa [Item.toks, bytesOf, bytesOf_append] using h)
    obtain ⟨body', toks', e1, hb', hl, hbt⟩ := weave_body body hb rest toks1 hb0
    refine ⟨tickItems tk ++ [.sysc st body'], toks', ?_, ?_, hbt⟩
    · rw [wireToks_tickItems, e0, e1]; simp [wireToks, Item.toks]
    · intro l
      rw [List.append_assoc, wfFrom_tickItems]
      simp [wfFrom, Item.ok, Item.runAfter, hl, hlen, hb']
  | sysex body last =>
    simp only [Item.ok, Bool.and_eq_true, decide_eq_true_eq] at hok
    obtain ⟨⟨hb, hg⟩, hlen⟩ := hok
    obtain ⟨tk, toks1, e0, hb0⟩ := toks_first_byte toks 0xF0 (bytesOf (bodyToks body) ++ (bytesOf last ++ 0xF7 :: rest))
      (by simpa [Item.toks, bytesOf, bytesOf_append] using h)
    obtain ⟨body', toks2, e1, hb', hl, hb2⟩ := weave_body body hb _ toks1 hb0
    obtain ⟨last', toks', e2, hg', hbt⟩ := weave_gap last hg 0xF7 rest toks2 hb2
    refine ⟨tickItems tk ++ [.sysex body' last'], toks', ?_, ?_, hbt⟩
    · rw [wireToks_tickItems, e0, e1, e2]; simp [wireToks, Item.toks]
    · intro l
      rw [List.append_assoc, wfFrom_tickItems]
      simp [wfFrom, Item.ok, Item.runAfter, hl, hlen, hb', hg']

theorem weave_items (bs : Nat) (items : List Item) :
    ∀ (run : Nat) (toks : List Tok), wfFrom bs run items = true → bytesOf toks = bytesOf (wireToks items) →
      ∃ items', wireToks items' = toks ∧ wfFrom bs run items' = true := by
  induction items with
  | nil =>
    intro run toks _ h
    obtain ⟨tk, e⟩ := toks_no_bytes toks (by simpa [wireToks, bytesOf] using h)
    refine ⟨tickItems tk, ?_, ?_⟩
    · have := wireToks_tickItems tk []
      simp only [List.append_nil, wireToks] at this
      rw [this, e]
    · have := wfFrom_tickItems bs run tk []
      simp only [List.append_nil] at this
      rw [this]; rfl
  | cons it r ih =>
    intro run toks hwf h
    simp only [wfFrom, Bool.and_eq_true] at hwf
    obtain ⟨its', toks', e, hw, hb⟩ := weave_item bs run it hwf.1 (bytesOf (wireToks r)) toks
      (by simpa [wireToks, bytesOf_append] using h)
    obtain ⟨r', e', hw'⟩ := ih (it.runAfter run) toks' hwf.2 hb
    refine ⟨its' ++ r', ?_, ?_⟩
    · rw [wireToks_append, e', e]
    · rw [hw, hw']

end Midi.LiveWire
