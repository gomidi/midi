import Proofs.GoSem
import Proofs.LiveRetype
import Props.C07_Code
/-!
# C04 (and C06, C13, C14), tie to the source: the re-typing closure of `midi.ListenTo`

`MidiModel/Generated/MidiGo.lean` contains the translation of the function literal `onMsg` inside `midi.ListenTo`
(`v2/listen.go`): the captured variables `isStatusSet`, `typ`, `channel` are the fields of `midi.ListenTo.onMsg.Env`, a call
of the captured `recv` is an event of its `trace`. The theorem says that on every frame that starts with a status byte — the
only frames `drivers.Reader` hands on (`Props/C06_Code`, `WfFrame`) — the closure calls the listener exactly as the model's
`Live.retype` says, and panics exactly where the model says so.
(`msg == nil` is translated as "msg is empty": every message the closure builds is non-empty.)
-/
namespace Midi.C04
open Midi Midi.Live Midi.Go Midi.C07

theorem throw_bind' {α β : Type} (e : String) (f : α → Except String β) :
    ((throw e : Except String α) >>= f) = throw e := rfl
theorem ok_bind' {α β : Type} (x : α) (f : α → Except String β) : (Except.ok x >>= f) = f x := Go.ok_bind x f
theorem pure_bind' {α β : Type} (x : α) (f : α → Except String β) : ((pure x : Except String α) >>= f) = f x :=
  Go.ok_bind x f
theorem throw_ne_ok {α : Type} (e : String) : ∃ e', (throw e : Except String α) = .error e' := ⟨e, rfl⟩

theorem parseStatus_code (s : Nat) : utils.ParseStatus s = Msg.parseStatus s := code_ParseStatus s

/-- `_channelMessage` as translated is the model's `chanMsg` (its two `panic`s = `none`): the same chain of tests on
    `typ`, each branch a constructor the model has under the same name -/
theorem code_channelMessage_dispatch (typ ch d1 d2 : Nat) :
    midi.u_channelMessage typ ch d1 d2 =
      (match chanMsg typ ch d1 d2 with | some m => .ok m | none => .error "panic") := by
  unfold midi.u_channelMessage chanMsg
  simp only [code_AfterTouch, code_ProgramChange, code_ControlChange, code_NoteOn, code_NoteOffVelocity,
    code_PolyAfterTouch, code_Pitchbend, code_ParsePitchWheelVals,
    apply_ite (fun o : Option Bytes => (match o with | some m => .ok m | none => .error "panic" : Except String Bytes))]
  rfl

/-- what the listener is called with: `none` = not called -/
def recvOf (env : midi.ListenTo.onMsg.Env) (o : Option Bytes) (ms : Int) : List midi.ListenTo.onMsg.Ev :=
  match o with
  | some m => env.trace ++ [.recv m ms]
  | none => env.trace

/-- One call of the closure on a frame that starts with a status byte: it panics iff the model's `retype` says
    `some none`; otherwise it returns and has called the listener with exactly the model's message (or not at all). -/
theorem code_onMsg_follows_retype (env : midi.ListenTo.onMsg.Env) (data : Bytes) (ms : Int)
    (hs : ∀ s r, data = s :: r → 0x80 ≤ s) (hb : ∀ b ∈ data, b < 256) :
    match retype data with
    | some none => ∃ e, midi.ListenTo.onMsg env data ms = .error e
    | some (some m) => ∃ env', midi.ListenTo.onMsg env data ms = .ok env' ∧ env'.trace = env.trace ++ [.recv m ms]
    | none => ∃ env', midi.ListenTo.onMsg env data ms = .ok env' ∧ env'.trace = env.trace := by
  cases data with
  | nil => exact ⟨_, rfl⟩
  | cons s rest =>
    have hs' := hs s rest rfl
    unfold midi.ListenTo.onMsg
    simp only [↓Go.idx_0_bind]
    -- Both sides are the same chain of tests on the status byte. Where it is a literal, the chain, the reads `data[1]`,
    -- `data[2]` of explicit cells (out of range = the model's `some none`) and the closure's last test `msg == nil` all
    -- compute: `rfl` finds the new environment.
    have cls : 248 ≤ s ∨ (s = 246 ∨ s = 244 ∨ s = 245 ∨ s = 247 ∨ s = 240) ∨ s = 241 ∨ s = 243 ∨ s = 242 ∨ s ≤ 239 := by
      omega
    rcases cls with h | h | rfl | rfl | rfl | h
    · rw [retype_rt s rest h, if_pos h]
      exact ⟨_, rfl, rfl⟩
    · rcases h with rfl | rfl | rfl | rfl | rfl <;> exact ⟨_, rfl, rfl⟩
    · cases rest with
      | nil => exact ⟨_, rfl⟩
      | cons d1 r =>
        simp only [↓Go.idx_1_bind, code_MTC d1 (hb d1 (by simp))]
        exact ⟨_, rfl, rfl⟩
    · cases rest with
      | nil => exact ⟨_, rfl⟩
      | cons d1 r => exact ⟨_, rfl, rfl⟩
    · rcases rest with _ | ⟨d1, _ | ⟨d2, r⟩⟩
      · exact ⟨_, rfl⟩
      · exact ⟨_, rfl⟩
      · simp only [↓Go.idx_1_bind, ↓Go.idx_2_bind, code_ParsePitchWheelVals, code_SPP, Go.ok_bind]
        exact ⟨_, rfl, rfl⟩
    · -- a channel status: both sides read two data bytes and call `_channelMessage` with the nibbles of the status
      have c1 : ¬ s ≥ 248 := by omega
      have c2 : ¬ (s > 240 ∧ s < 247) := by omega
      have c3 : ¬ s = 247 := by omega
      have c4 : ¬ s = 240 := by omega
      have c5 : s ≥ 128 ∧ s ≤ 239 := ⟨hs', h⟩
      simp only [c1, c2, c3, c4, c5, ↓reduceIte, code_ParseStatus, Msg.parseStatus_eq s (by omega)]
      rcases rest with _ | ⟨d1, _ | ⟨d2, r⟩⟩
      · rw [retype_chanShort s [] hs' h (Nat.zero_lt_succ 1)]
        exact ⟨_, rfl⟩
      · rw [retype_chanShort s [d1] hs' h (Nat.lt_succ_self 1)]
        exact ⟨_, rfl⟩
      · rw [retype_chanStatus s d1 d2 r hs' h]
        simp only [↓Go.idx_1_bind, ↓Go.idx_2_bind, code_channelMessage_dispatch]
        cases hp : chanMsg (s / 16) (s % 16) d1 d2 with
        | none => exact ⟨_, rfl⟩
        | some m =>
          have hne : ¬ m.length = 0 := fun h0 => chanMsg_ne_nil hp (List.eq_nil_of_length_eq_zero h0)
          simp only [Go.ok_bind, hne, ↓reduceIte]
          exact ⟨_, rfl, rfl⟩

end Midi.C04
