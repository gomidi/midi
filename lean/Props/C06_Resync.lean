import Proofs.LiveWireListen
import Proofs.LiveWireExample
/-!
# C06 (resynchronisation clause) — after any garbage prefix the first complete message that starts with a
status byte, and everything after it, is decoded exactly

`g` is ANY token stream (arbitrary bytes, arbitrary chunking): the decoder may be left in the middle of a channel
or system common message, inside a sysex (overflown or not), behind an undefined status byte, with or without
running status. `items` is a legal wire sequence (`LiveWire.WF`, see `Props/C04.lean`) whose first item is a
message that carries its own status byte (channel voice, system common or sysex; real-time bytes and ticks may
sit in all its gaps). Whatever `g` made the listener receive stays as it is, and `items` is delivered exactly
as to a freshly started receiver, the clock being the sum of the ticks of `g`.
-/
namespace Midi.C06
open Midi Midi.Live Midi.LiveWire

/-- from EVERY decoder state (reachable or not, even one whose `panicked` flag is set): a legal sequence that
    starts with an explicit status byte is decoded exactly, stamped from the state's clock -/
theorem resync_any_state (c : Cfg) (hc : AllOn c) (s : St) (items : List Item)
    (hwf : WF c.bufSize items) (hex : startsExplicit items = true) :
    listenFrames c (feed c s (wireToks items)).2 = delivered (expectedFrom s.ts items) :=
  listen_from_any c hc items s 0 hex hwf

/-- **resynchronisation**: garbage prefix `g` (any bytes, any chunking), then a legal sequence starting with a
    status byte -/
theorem resync (c : Cfg) (hc : AllOn c) (g : List Tok) (items : List Item)
    (hwf : WF c.bufSize items) (hex : startsExplicit items = true) :
    listen c (g ++ wireToks items) = listen c g ++ delivered (expectedFrom (tickSum g) items) := by
  rw [listen_append, resync_any_state c hc _ items hwf hex, feed_init_ts]

/-- nothing of the garbage leaks into what follows: the messages delivered after the prefix do not depend on the
    prefix at all (only the clock does) -/
theorem resync_independent (c : Cfg) (hc : AllOn c) (g g' : List Tok) (items : List Item)
    (hwf : WF c.bufSize items) (hex : startsExplicit items = true) (ht : tickSum g = tickSum g') :
    (listen c (g ++ wireToks items)).drop (listen c g).length
      = (listen c (g' ++ wireToks items)).drop (listen c g').length := by
  rw [resync c hc g items hwf hex, resync c hc g' items hwf hex, ht]
  simp

/-- if the garbage happens to leave the decoder between messages (mode clean), the continuation may even use the
    running status the decoder holds: legality is judged against that status -/
theorem resync_running (c : Cfg) (hc : AllOn c) (g : List Tok) (items : List Item)
    (hm : (feed c init g).1.mode = .clean)
    (hwf : wfFrom c.bufSize (feed c init g).1.status items = true) :
    listen c (g ++ wireToks items) = listen c g ++ delivered (expectedFrom (tickSum g) items) := by
  rw [listen_append, listen_from_clean c hc items _ _ _ (reachable_clean c g hm) hwf]

/-! ## non-vacuity: the example sequence of C04 (running status, real-time inside a message, a sysex that exactly
fills the buffer, cuts inside messages) behind a garbage prefix that leaves the decoder inside an unfinished
sysex -/

example : WF exCfg.bufSize exItems ∧ startsExplicit exItems = true := by decide
example : (feed exCfg init exGarbage).1.mode = .sysex ∧ (feed exCfg init exGarbage).1.sx = [0xF0, 0x11, 0x22] ∧
    tickSum exGarbage = 7 := by decide
example : listen exCfg (exGarbage ++ wireToks exItems) =
    listen exCfg exGarbage ++ delivered (expectedFrom 7 exItems) :=
  resync exCfg ⟨rfl, rfl, rfl⟩ exGarbage exItems (by decide) (by decide)
/-- the garbage itself delivers nothing here, so the listener sees exactly the messages of `exItems`, 7 ms late -/
example : listen exCfg exGarbage = [] := by decide
/-- `resync_running`: garbage ending between messages with running status `0x92`; the sequence starts without status -/
example : (feed exCfg init [.byte 0x7F, .byte 0x92, .tick 3, .byte 0x01, .byte 0x02]).1.mode = .clean ∧
    wfFrom exCfg.bufSize (feed exCfg init [.byte 0x7F, .byte 0x92, .tick 3, .byte 0x01, .byte 0x02]).1.status
      [.chan 0x92 true [([], 0x3C), ([.byte 0xF8], 0x40)], .rt 0xFA, .chan 0x92 true [([.tick 1], 0x3C), ([], 0)]] = true := by
  decide
/-- `resync_any_state` asks nothing of the state: here one with `panicked` set and a pending byte in clean mode -/
example : startsExplicit exItems = true ∧
    ({ mode := .clean, status := 0x95, typ := 3, pend := some 9, panicked := true } : St).panicked = true := by decide

end Midi.C06
