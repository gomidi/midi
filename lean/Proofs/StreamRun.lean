import MidiModel.SmfStream
/-!
What every analysis of reader programs uses: `run` on a sequenced program; the primitives of the fragmenting,
possibly failing source in closed form, in which the way the stream is cut into `Read` results does not appear;
`io.CopyN(ioutil.Discard, …)` as `io.ReadFull`.
-/
namespace Midi.Stream
open Midi.Smf

theorem run_bind {σ α β : Type} (o : Ops σ) (p : Prog α) (f : α → Prog β) : ∀ s,
    run o (p.bind f) s = (match run o p s with
      | (.ok a, s') => run o (f a) s'
      | (.error e, s') => (.error e, s')) := by
  induction p with
  | pure a => intro s; simp [Prog.bind, run]
  | fail e => intro s; simp [Prog.bind, run]
  | readFull n k ih => intro s; simp only [Prog.bind, run]; exact ih _ _
  | readRaw k ih => intro s; simp only [Prog.bind, run]; exact ih _ _
  | discard n k ih => intro s; simp only [Prog.bind, run]; exact ih _ _

theorem run_catch {σ α β : Type} (o : Ops σ) (p : Prog α) (f : Except Err α → Prog β) : ∀ s,
    run o (p.catch f) s = run o (f (run o p s).1) (run o p s).2 := by
  induction p with
  | pure a => intro s; simp [Prog.catch, run]
  | fail e => intro s; simp [Prog.catch, run]
  | readFull n k ih => intro s; simp only [Prog.catch, run]; exact ih _ _
  | readRaw k ih => intro s; simp only [Prog.catch, run]; exact ih _ _
  | discard n k ih => intro s; simp only [Prog.catch, run]; exact ih _ _

theorem bind_catch {α β : Type} (p : Prog α) (g : α → Prog β) :
    p.bind g = p.catch fun r => match r with | .ok a => g a | .error e => .fail e := by
  induction p with
  | pure a => rfl
  | fail e => rfl
  | readFull n k ih => simp only [Prog.bind, Prog.catch, ih]
  | readRaw k ih => simp only [Prog.bind, Prog.catch, ih]
  | discard n k ih => simp only [Prog.bind, Prog.catch, ih]

/-- how many bytes the source still delivers: all it has, or those in front of the fault -/
def Src.room (s : Src) : Nat :=
  match s.fault with
  | some f => min (f - s.pos) s.data.length
  | none => s.data.length

/-- the fault offset is reached: the next `Read` fails -/
def Src.blocked (s : Src) : Prop := ∃ f, s.fault = some f ∧ f ≤ s.pos

def Src.adv (s : Src) (m : Nat) : Src := { s with data := s.data.drop m, pos := s.pos + m }

theorem adv_zero (s : Src) : s.adv 0 = s := rfl

theorem adv_adv (s : Src) (a b : Nat) : (s.adv a).adv b = s.adv (a + b) := by
  simp [Src.adv, List.drop_drop, Nat.add_assoc]

theorem room_le (s : Src) : s.room ≤ s.data.length := by
  unfold Src.room
  split <;> omega

theorem room_adv (s : Src) (a : Nat) : (s.adv a).room = s.room - a := by
  cases hf : s.fault <;>
    simp only [Src.room, Src.adv, hf, List.length_drop, Nat.sub_add_eq, Nat.sub_min_sub_right]

theorem foldl_min_gt (cs : List Nat) (p init : Nat) (hi : p < init) (hc : ∀ c ∈ cs, p < c) :
    p < cs.foldl min init := by
  induction cs generalizing init with
  | nil => simpa using hi
  | cons c cs ih =>
    simp only [List.foldl_cons]
    exact ih _ (by have := hc c (by simp); omega) (fun x hx => hc x (by simp [hx]))

theorem avail_le (s : Src) (k : Nat) : s.avail k ≤ k ∧ s.avail k ≤ s.room ∧ (1 ≤ k → 1 ≤ s.room → 1 ≤ s.avail k) := by
  have hcut := foldl_min_gt (s.cuts.filter (fun c => c > s.pos)) s.pos (s.pos + s.data.length + 1) (by omega)
    (by intro c hc; simp at hc; exact hc.2)
  cases hf : s.fault <;> simp only [Src.avail, Src.room, hf] <;> omega

theorem read_blocked (s : Src) (k : Nat) (h : s.blocked) : s.read k = ([], .io, { s with hit := true }) := by
  obtain ⟨f, hf, hp⟩ := h
  simp [Src.read, hf, hp]

theorem data_nil_of_room (s : Src) (h : ¬ s.blocked) (h0 : s.room = 0) : s.data = [] := by
  apply List.eq_nil_of_length_eq_zero
  cases hf : s.fault with
  | none => simpa [Src.room, hf] using h0
  | some f =>
    have : ¬ f ≤ s.pos := fun hp => h ⟨f, hf, hp⟩
    simp only [Src.room, hf] at h0
    omega

/-- one `Read` in front of the fault: a prefix of the data, at least one byte if there is one to deliver, and EOF only
    with the last bytes -/
theorem read_open (s : Src) (k : Nat) (h : ¬ s.blocked) :
    ∃ a e, s.read k = (s.data.take a, e, s.adv a) ∧ a ≤ k ∧ a ≤ s.room ∧ (1 ≤ k → 1 ≤ s.room → 1 ≤ a) ∧ e ≠ .io ∧
      (e = .none → 1 ≤ a) ∧ (e = .eof → 1 ≤ k → a = s.data.length ∧ ¬ (s.adv a).blocked) := by
  obtain ⟨a1, a2, a3⟩ := avail_le s k
  have hr := room_le s
  by_cases hm : s.avail k = 0
  · have hread : s.read k = ([], .eof, s) := by
      obtain ⟨data, pos, cuts, ewd, fault, hit⟩ := s
      cases fault with
      | none => simp only [Src.read, hm, if_true]
      | some f =>
        have : ¬ f ≤ pos := fun hp => h ⟨f, rfl, hp⟩
        simp only [Src.read, this, hm, if_true, if_false]
    refine ⟨0, .eof, hread, Nat.zero_le _, Nat.zero_le _, fun h1 h2 => by omega, by simp, by simp, fun _ hk => ⟨?_, h⟩⟩
    rw [data_nil_of_room s h (by omega)]
    rfl
  · have hread : ∃ e, s.read k = (s.data.take (s.avail k), e, s.adv (s.avail k)) ∧ e ≠ .io ∧
        (e = .eof → s.data.drop (s.avail k) = [] ∧ ¬ (s.adv (s.avail k)).blocked) := by
      obtain ⟨data, pos, cuts, ewd, fault, hit⟩ := s
      cases fault with
      | none =>
        refine ⟨_, by simp only [Src.read, hm, if_false]; rfl, by split <;> simp, fun he => ?_⟩
        split at he
        · rename_i hc
          exact ⟨hc.1, fun ⟨f, hf, _⟩ => by cases hf⟩
        · cases he
      | some f =>
        have : ¬ f ≤ pos := fun hp => h ⟨f, rfl, hp⟩
        refine ⟨_, by simp only [Src.read, this, hm, if_false]; rfl, by split <;> simp, fun he => ?_⟩
        split at he
        · rename_i hc
          refine ⟨hc.1, fun ⟨f', hf, hp⟩ => ?_⟩
          cases hf
          exact absurd hp (Nat.not_le.mpr hc.2.2)
        · cases he
    obtain ⟨e, h1, h2, h3⟩ := hread
    refine ⟨s.avail k, e, h1, a1, a2, fun _ _ => by omega, h2, fun _ => by omega, fun he _ => ?_⟩
    obtain ⟨h4, h5⟩ := h3 he
    have : (s.data.drop (s.avail k)).length = 0 := by rw [h4]; rfl
    simp only [List.length_drop] at this
    exact ⟨by omega, h5⟩

theorem room_of_blocked (s : Src) (h : s.blocked) : s.room = 0 := by
  obtain ⟨f, hf, hp⟩ := h
  simp only [Src.room, hf]
  omega

/-- `io.ReadFull` in closed form: what the source has room for is delivered, and a short read is ended by the fault,
    if it lies inside the data, or else by the end of the data. One more than `n` is fuel enough. -/
theorem srcReadFull_eq : ∀ (fuel n : Nat) (acc : Bytes) (s : Src), n < fuel →
    (n ≤ s.room → srcReadFull fuel n acc s = (.ok (acc ++ s.data.take n), s.adv n)) ∧
    (s.room < n → (s.adv s.room).blocked →
      srcReadFull fuel n acc s = (.error .io, { s.adv s.room with hit := true })) ∧
    (s.room < n → ¬ (s.adv s.room).blocked →
      srcReadFull fuel n acc s = (.error (if acc ++ s.data = [] then .eof else .ueof), s.adv s.room)) := by
  intro fuel
  induction fuel with
  | zero => intro n acc s h; omega
  | succ fuel ih =>
    intro n acc s hn
    unfold srcReadFull
    by_cases h0 : n = 0
    · subst h0
      exact ⟨fun _ => by simp [adv_zero], fun h => by omega, fun h => by omega⟩
    · simp only [h0, if_false]
      by_cases hb : s.blocked
      · have hr0 := room_of_blocked s hb
        have : ¬ 0 = n := fun h => h0 h.symm
        simp only [read_blocked s n hb, hr0, adv_zero, List.length_nil, this, if_false]
        exact ⟨fun h => by omega, fun _ _ => trivial, fun _ h => absurd hb h⟩
      · obtain ⟨a, e, hread, ha1, ha2, _, he1, he2, he3⟩ := read_open s n hb
        have hr := room_le s
        have hl : (s.data.take a).length = a := by simp only [List.length_take]; omega
        simp only [hread, hl]
        by_cases hfull : a = n
        · subst hfull
          simp only [if_true]
          exact ⟨fun _ => trivial, fun h => by omega, fun h => by omega⟩
        · simp only [hfull, if_false]
          cases e with
          | io => exact absurd rfl he1
          | none =>
            have hpos := he2 rfl
            obtain ⟨i1, i2, i3⟩ := ih (n - a) (acc ++ s.data.take a) (s.adv a) (by omega)
            have hd : (s.adv a).data = s.data.drop a := rfl
            have hra : a + (s.room - a) = s.room := by omega
            simp only [room_adv s a, adv_adv, hd, hra, List.append_assoc, List.take_append_drop] at i1 i2 i3
            refine ⟨fun h => ?_, fun h hbk => i2 (by omega) hbk, fun h hbk => i3 (by omega) hbk⟩
            rw [i1 (by omega), show a + (n - a) = n by omega, ← List.take_add, show a + (n - a) = n by omega]
          | eof =>
            obtain ⟨hA, hB⟩ := he3 rfl (by omega)
            have hra : s.room = a := by omega
            rw [hra]
            refine ⟨fun h => by omega, fun _ hbk => absurd hbk hB, fun _ _ => ?_⟩
            rw [hA, List.take_length]
            dsimp only
            split <;> rfl

/-- the single `Read` of `ReadVarLength` -/
theorem srcReadRaw_eq (s : Src) :
    (s.blocked → srcOps.readRaw s = (none, { s with hit := true })) ∧
    (¬ s.blocked → srcOps.readRaw s = (s.data.head?, s.adv (min 1 s.room))) := by
  refine ⟨fun hb => ?_, fun hb => ?_⟩
  · simp only [srcOps, read_blocked s 1 hb]
  · obtain ⟨a, e, hread, ha1, ha2, ha3, _⟩ := read_open s 1 hb
    have ha : a = min 1 s.room := by have := ha3 (Nat.le_refl 1); omega
    subst ha
    simp only [srcOps, hread]
    cases hd : s.data with
    | nil => simp
    | cons b r =>
      have : 1 ≤ s.room := Nat.pos_of_ne_zero fun h0 => by simp [data_nil_of_room s hb h0] at hd
      simp [Nat.min_eq_left this]

theorem listOps_readFull (n : Nat) (l : Bytes) : listOps.readFull n l =
    if l.length < n then (.error (if l = [] then .eof else .ueof), []) else (.ok (l.take n), l.drop n) := by
  simp only [listOps]
  by_cases h0 : n = 0
  · simp [h0]
  · by_cases he : l = []
    · simp [h0, he, Nat.pos_of_ne_zero h0]
    · by_cases hl : l.length < n <;> simp [h0, he, hl]

/-- what `io.CopyN(ioutil.Discard, …)` makes of the outcome of the same `io.ReadFull` -/
def discardRes : Except Err Bytes → Except Err Unit
  | .ok _ => .ok ()
  | .error .ueof => .error .eof
  | .error e => .error e

theorem srcDiscard_eq : ∀ (fuel n : Nat) (acc : Bytes) (s : Src),
    srcDiscard fuel n s = (discardRes (srcReadFull fuel n acc s).1, (srcReadFull fuel n acc s).2) := by
  intro fuel
  induction fuel with
  | zero => intro n acc s; rfl
  | succ fuel ih =>
    intro n acc s
    unfold srcDiscard srcReadFull
    by_cases hn : n = 0
    · simp [hn, discardRes]
    · simp only [hn, if_false]
      by_cases hfull : (s.read n).1.length = n
      · simp [hfull, discardRes]
      · simp only [hfull, if_false]
        cases (s.read n).2.1 with
        | none => exact ih _ _ _
        | eof => by_cases ha : acc ++ (s.read n).1 = [] <;> simp [ha, discardRes]
        | io => rfl

theorem srcOps_discard (n : Nat) (s : Src) :
    srcOps.discard n s = (discardRes (srcOps.readFull n s).1, (srcOps.readFull n s).2) :=
  srcDiscard_eq (n + 1) n [] s

theorem listOps_discard (n : Nat) (l : Bytes) :
    listOps.discard n l = (discardRes (listOps.readFull n l).1, (listOps.readFull n l).2) := by
  rw [listOps_readFull]
  simp only [listOps]
  by_cases hl : l.length < n
  · by_cases he : l = []
    · subst he
      simp [show 0 < n from hl, discardRes]
    · simp [hl, he, discardRes]
  · simp [hl, discardRes]

end Midi.Stream
