import Proofs.Record
import Proofs.RecordLive
import Proofs.LiveInv
/-!
# From decoder frames to what the recording callback receives

`ListenTo`'s re-typing on the frames of the decoder never gives the panic outcome and yields well-formed messages
(`Live.retype_wf`); a well-formed message that passes the callback's test `Is(ChannelMsg)` is a channel message of
the domain of C01/C03.
-/
namespace Midi.Record
open Midi.Live Midi.Smf

/-- a well-formed channel message: the `chan` case of the domain of C01/C03 (status 0x80..0xEF, one data
    byte for program change / channel pressure and two otherwise, data bytes < 0x80) -/
def ChanWF (m : Bytes) : Prop := ∃ st d1 d2, (Ev.chan st d1 d2).Valid ∧ m = (Ev.chan st d1 d2).toBytes

/-- the first two shapes of `WellFormedMsg`; all others start with a byte `≥ 0xF0` -/
theorem chanWF_of_wellFormed {c : Cfg} {m : Bytes} (hw : WellFormedMsg c m) (hc : isChannelMsg m = true) : ChanWF m := by
  obtain ⟨b, r, e, hlo, hhi⟩ := (isChannelMsg_iff m).1 hc
  rcases hw with ⟨st, d1, d2, rfl, hs, h1, h2⟩ | ⟨st, d, rfl, hs1, hs2, h1⟩ | ⟨d, rfl, _⟩ | ⟨d1, d2, rfl, _⟩ |
      ⟨d, rfl, _⟩ | rfl | ⟨b', rfl, hb⟩ | ⟨d, rfl, _⟩
  · refine ⟨st, d1, some d2, ⟨by omega, by omega, h1, ?_, h2⟩, rfl⟩
    have n1 : ¬ st / 16 = 0xC := by omega
    have n2 : ¬ st / 16 = 0xD := by omega
    simp [oneData, n1, n2]
  · refine ⟨st, d, none, ⟨by omega, by omega, h1, ?_⟩, rfl⟩
    have : st / 16 = 0xC ∨ st / 16 = 0xD := by omega
    rcases this with k | k <;> simp [oneData, k]
  all_goals (cases e; omega)

/-- the listener message of one frame (`none`: filtered by the driver, or nothing to deliver) -/
def msgOfFrame (c : Cfg) (f : Frame) : Option (Bytes × Int) :=
  if keep c f then
    match retype f.1 with
    | some (some m) => some (m, f.2)
    | _ => none
  else none

theorem delivered_map_some (l : List (Bytes × Int)) :
    delivered (l.map fun m => (some m.1, m.2)) = some l := by
  induction l with
  | nil => rfl
  | cons m r ih => simp [delivered, ih]

theorem listenFrames_eq (c : Cfg) (frames : List Frame) (h : ∀ f ∈ frames, retype f.1 ≠ some none) :
    listenFrames c frames = (frames.filterMap (msgOfFrame c)).map fun m => (some m.1, m.2) := by
  induction frames with
  | nil => rfl
  | cons f r ih =>
    have ih' := ih (fun g hg => h g (List.mem_cons_of_mem _ hg))
    have hf := h f (by simp)
    simp only [listenFrames] at ih' ⊢
    by_cases hk : keep c f = true
    · rw [List.filter_cons_of_pos hk, List.filterMap_cons, List.filterMap_cons]
      cases hr : retype f.1 with
      | none => simp [msgOfFrame, hk, hr, ih']
      | some o =>
        cases o with
        | none => exact absurd hr hf
        | some m => simp [msgOfFrame, hk, hr, ih']
    · have hk' : keep c f = false := by simpa using hk
      rw [List.filter_cons_of_neg hk, List.filterMap_cons]
      simp [msgOfFrame, hk', ih']

theorem msgOfFrame_stamp (c : Cfg) (f : Frame) (m : Bytes × Int) (h : msgOfFrame c f = some m) :
    m.2 = f.2 ∧ retype f.1 = some (some m.1) := by
  unfold msgOfFrame at h
  split at h
  · split at h
    · rename_i m' hm; cases h; exact ⟨rfl, hm⟩
    · cases h
  · cases h

theorem filterMap_stamps_sublist (c : Cfg) (frames : List Frame) :
    ((frames.filterMap (msgOfFrame c)).map (·.2)).Sublist (frames.map (·.2)) := by
  induction frames with
  | nil => simp
  | cons f r ih =>
    rw [List.filterMap_cons]
    cases hm : msgOfFrame c f with
    | none => simpa using ih.cons _
    | some m =>
      have := (msgOfFrame_stamp c f m hm).1
      simp only [List.map_cons, this]
      exact ih.cons_cons _

theorem received_eq (toks : List Tok) :
    received toks = some ((feed recCfg init toks).2.filterMap (msgOfFrame recCfg)) := by
  have hnp : ∀ f ∈ (feed recCfg init toks).2, retype f.1 ≠ some none := by
    intro f hf hr
    obtain ⟨_, bs, e, _⟩ := retype_wf_some ((feed_inv recCfg toks init (Live.init_inv recCfg)).2 f hf) hr
    cases e
  simp only [received, listen]
  rw [listenFrames_eq recCfg _ hnp, delivered_map_some]

theorem received_chanWF {toks : List Tok} {ms : List (Bytes × Int)} (h : received toks = some ms) :
    ∀ m ∈ ms, isChannelMsg m.1 = true → ChanWF m.1 := by
  rw [received_eq] at h
  cases h
  intro m hm hc
  obtain ⟨f, hf, hfm⟩ := List.mem_filterMap.1 hm
  obtain ⟨_, bs, e, hw, _⟩ :=
    retype_wf_some ((feed_inv recCfg toks init (Live.init_inv recCfg)).2 f hf) (msgOfFrame_stamp recCfg f m hfm).2
  cases e
  exact chanWF_of_wellFormed hw hc

theorem received_stamps (toks : List Tok) (hfw : Forward toks) (ms : List (Bytes × Int))
    (h : received toks = some ms) :
    (∀ m ∈ ms, 0 ≤ m.2 ∧ m.2 ≤ elapsed toks) ∧ (ms.map (·.2)).Pairwise (· ≤ ·) := by
  rw [received_eq] at h
  cases h
  have hsub := filterMap_stamps_sublist recCfg (feed recCfg init toks).2
  obtain ⟨hb, hp⟩ := feed_stamps recCfg rfl toks hfw init
  refine ⟨fun m hm => ?_, hp.sublist hsub⟩
  obtain ⟨f, hf, e⟩ := List.mem_map.1 (hsub.subset (List.mem_map_of_mem hm))
  have := hb f hf
  simp only [init] at this
  rw [← e]
  omega

end Midi.Record
