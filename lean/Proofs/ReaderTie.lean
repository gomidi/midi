import MidiModel.Live
import MidiModel.Generated.ReaderGo
import Proofs.LiveInv
import Proofs.GoSem
/-! # The translated `drivers/reader.go` refines the decoder model -/
namespace Midi.Tie
open Midi Midi.Live Midi.Go

/-- `readerStateClean` … `readerStateWithinUnknown` of `reader.go`: the translated text carries the constants as literals -/
def modeCode : Mode → Int
  | .clean => 0 | .chan => 1 | .sysc => 2 | .sysex => 3 | .unknown => 4

def evFrames : List drivers.Reader.Ev → List Frame
  | [] => []
  | .OnMsg b ts :: r => (b, ts) :: evFrames r
  | .OnErr :: r => evFrames r

@[simp] theorem evFrames_append (a b : List drivers.Reader.Ev) : evFrames (a ++ b) = evFrames a ++ evFrames b := by
  induction a with
  | nil => rfl
  | cons x xs ih => cases x <;> simp [evFrames, ih]

def wrap32 (x : Int) : Int := (x + 2147483648) % 4294967296 - 2147483648

def wrapFrame (f : Frame) : Frame := (f.1, wrap32 f.2)

/-- the filled prefix `sysexBf[:sysexlen]` -/
def sxOf (r : drivers.Reader) : Bytes := if 0 < r.sysexlen then r.sysexBf.take r.sysexlen.toNat else []

/-- the Go struct against the model state, field by field: the sysex buffer by its filled prefix (allocated at the configured
    size once in use), the `int32` clocks modulo 2^32 -/
def Rel (c : Cfg) (r : drivers.Reader) (s : St) : Prop :=
  r.state = modeCode s.mode ∧ r.statusByte = s.status ∧ r.typ = s.typ ∧
  s.pend = (if r.issetBf then some r.bf else none) ∧ s.sx = sxOf r ∧ 0 ≤ r.sysexlen ∧
  (0 < r.sysexlen → r.sysexBf.length = c.bufSize ∧ r.sysexlen ≤ (c.bufSize : Int)) ∧
  r.ts_ms = wrap32 s.ts ∧ r.sysexTS = wrap32 s.sxTs ∧ r.SysExBufferSize = c.bufSize ∧ r.HandleSysex = c.sysex ∧
  s.panicked = false

/-- one step: the translated function returns a related reader and has handed `OnMsg` the model's frames on top of the trace
    `t0`, or it panics and the model says so -/
def Sim (c : Cfg) (t0 : List drivers.Reader.Ev) (res : Except String drivers.Reader) (m : St × List Frame) : Prop :=
  match res with
  | .ok r' => Rel c r' m.1 ∧ evFrames r'.trace = evFrames t0 ++ m.2.map wrapFrame
  | .error _ => m.1.panicked = true

theorem Sim.ok {c : Cfg} {t0 : List drivers.Reader.Ev} {res : Except String drivers.Reader} {m : St × List Frame}
    (h : Sim c t0 res m) (hp : m.1.panicked = false) :
    ∃ r', res = .ok r' ∧ Rel c r' m.1 ∧ evFrames r'.trace = evFrames t0 ++ m.2.map wrapFrame := by
  cases res with
  | error e => exact absurd (h.symm.trans hp) (by simp)
  | ok r' => exact ⟨r', rfl, h⟩

/-- the code and the model branch on the same test, or on tests that `Rel` makes equivalent -/
theorem Sim.ite {c : Cfg} {t0 : List drivers.Reader.Ev} {p q : Prop} [Decidable p] [Decidable q]
    {a b : Except String drivers.Reader} {x y : St × List Frame} (hpq : p ↔ q)
    (ht : q → Sim c t0 a x) (he : ¬ q → Sim c t0 b y) : Sim c t0 (if p then a else b) (if q then x else y) := by
  by_cases hq : q
  · rw [if_pos (hpq.2 hq), if_pos hq]
    exact ht hq
  · rw [if_neg (fun hp => hq (hpq.1 hp)), if_neg hq]
    exact he hq

theorem isStatus_fin : ∀ b : Fin 256, utils.IsStatusByte b.val = decide (128 ≤ b.val) := by decide +kernel
theorem isStatus_eq {b : Nat} (hb : b < 256) : utils.IsStatusByte b = decide (128 ≤ b) := isStatus_fin ⟨b, hb⟩
theorem parseStatus_fst {b : Nat} (hb : b < 256) : (utils.ParseStatus b).1 = b / 16 := by
  rw [show utils.ParseStatus b = Msg.parseStatus b from rfl, Msg.parseStatus_eq b hb]

theorem ok_bind {α β : Type} (x : α) (f : α → Except String β) : (Except.ok x >>= f) = f x := Go.ok_bind x f
theorem map_ok {α β : Type} (f : α → β) (x : α) : f <$> (Except.ok x : Except String α) = Except.ok (f x) := rfl
theorem map_throw {α β : Type} (f : α → β) (e : String) : f <$> (throw e : Except String α) = throw e := rfl

theorem setIdx_rep0 (n b : Nat) (h : 0 < n) : Go.setIdx (List.replicate n 0) 0 b = .ok ((List.replicate n 0).set 0 b) :=
  Go.setIdx_eq b (Int.le_refl 0) (by rw [List.length_replicate]; exact h)

theorem bufSize_lt (c : Cfg) (hc : c.buf < 4294967296) : c.bufSize < 4294967296 := by
  unfold Cfg.bufSize; split <;> omega

theorem take_succ_set (bf : Bytes) (n v : Nat) (h : n < bf.length) : (bf.set n v).take (n + 1) = bf.take n ++ [v] := by
  rw [List.take_succ_eq_append_getElem (by rw [List.length_set]; exact h), List.getElem_set_self,
    List.take_set_of_le (Nat.le_refl n)]

/-- the translated `copy(bt, bb[:n])` into a `bt` of length `n`: round `k` overwrites cell `k`, so after `k` rounds the
    first `k` cells agree with the source -/
theorem copy_loop (bb bt : Bytes) (n : Nat) (hn : n ≤ bb.length) (hl : bt.length = n) :
    (forIn [0:n] bt (fun (k4 : Nat) (s : Bytes) => (do
        let v ← Go.idx bb (0 + (k4 : Int))
        let u ← Go.setIdx s (0 + (k4 : Int)) v
        pure (ForInStep.yield u) : Except String (ForInStep Bytes))) : Except String Bytes) = .ok (bb.take n) := by
  rw [Std.Legacy.Range.forIn_eq_forIn_range']
  simp only [Std.Legacy.Range.size, Nat.sub_zero, Nat.add_sub_cancel, Nat.div_one, Int.zero_add]
  suffices inv : ∀ (m k : Nat) (acc : Bytes), k + m = n → acc.length = n → acc.take k = bb.take k →
      (forIn (List.range' k m) acc _ : Except String Bytes) = .ok (bb.take n) from inv n 0 bt (Nat.zero_add n) hl rfl
  intro m
  induction m with
  | zero =>
    intro k acc hk hal ht
    obtain rfl : k = n := hk
    rw [← ht, ← hal, List.take_length]
    rfl
  | succ m ih =>
    intro k acc hk hal ht
    have hkb : k < bb.length := by omega
    have hka : k < acc.length := by omega
    rw [List.range'_succ, List.forIn_cons, Go.idx_nat hkb, Go.ok_bind, Go.setIdx_nat _ hka, getElem!_pos bb k hkb]
    refine ih (k + 1) (acc.set k bb[k]) (by omega) (by rw [List.length_set]; exact hal) ?_
    rw [take_succ_set acc k _ hka, ht, List.take_succ_eq_append_getElem hkb]

/-! Each kind of update the reader makes keeps `Rel` for a reason of its own. In the simulations the two `if` trees are walked
together (`Sim.ite`) and a leaf is closed by `exact` with these lemmas: that the translated block is this record update is
seen by unfolding. -/

theorem Rel.ctrl {c : Cfg} {r : drivers.Reader} {s : St} (h : Rel c r s) {k : Int} (m : Mode) (hk : k = modeCode m)
    {st ty : Nat} {ib : Bool} {bf : Nat} {tr : List drivers.Reader.Ev} :
    Rel c { r with state := k, statusByte := st, typ := ty, issetBf := ib, bf := bf, trace := tr }
      { s with mode := m, status := st, typ := ty, pend := if ib then some bf else none } := by
  obtain ⟨_, _, _, _, hsx, hl0, hlb, hts, hsxts, hbuf, hhs, hnp⟩ := h
  exact ⟨hk, rfl, rfl, rfl, hsx, hl0, hlb, hts, hsxts, hbuf, hhs, hnp⟩

/-- `sysexlen = 0`: whatever `sysexBf` holds, the model's buffer is empty -/
theorem Rel.sxClear {c : Cfg} {r : drivers.Reader} {s : St} {bf : Bytes} (h : Rel c r s) :
    Rel c { r with sysexBf := bf, sysexlen := 0 } { s with sx := [] } := by
  obtain ⟨hm, hst, hty, hp, _, _, _, hts, hsxts, hbuf, hhs, hnp⟩ := h
  exact ⟨hm, hst, hty, hp, rfl, Int.le_refl 0, fun h => absurd h (Int.lt_irrefl 0), hts, hsxts, hbuf, hhs, hnp⟩

theorem Rel.sxStart {c : Cfg} {r : drivers.Reader} {s : St} (h : Rel c r s) :
    Rel c { r with sysexBf := (List.replicate r.SysExBufferSize 0).set 0 0xF0, sysexlen := 1, sysexTS := r.ts_ms }
      { s with sx := [0xF0], sxTs := s.ts } := by
  obtain ⟨hm, hst, hty, hp, _, _, _, hts, hsxts, hbuf, hhs, hnp⟩ := h
  have hpos := bufSize_pos c
  refine ⟨hm, hst, hty, hp, ?_, Int.zero_le_ofNat 1, fun _ => ⟨?_, ?_⟩, hts, hts, hbuf, hhs, hnp⟩
  · show [0xF0] = sxOf _
    simp only [sxOf, hbuf]
    exact (take_succ_set _ 0 _ (by rw [List.length_replicate]; exact hpos)).symm
  · simp only [List.length_set, List.length_replicate, hbuf]
  · show (1 : Int) ≤ _
    omega

theorem Rel.buf {c : Cfg} {r : drivers.Reader} {s : St} (h : Rel c r s) :
    ∃ n : Nat, r.sysexlen = n ∧ s.sx = r.sysexBf.take n ∧ s.sx.length = n ∧ (0 < n → r.sysexBf.length = c.bufSize) := by
  obtain ⟨_, _, _, _, hsx, hl0, hlb, _⟩ := h
  obtain ⟨n, hn⟩ := Int.eq_ofNat_of_zero_le hl0
  rw [sxOf, hn] at hsx
  rw [hn] at hlb
  cases n with
  | zero => exact ⟨0, hn, hsx, congrArg List.length hsx, fun h0 => absurd h0 (Nat.lt_irrefl 0)⟩
  | succ k =>
    obtain ⟨hfull, hle⟩ := hlb (by omega)
    rw [if_pos (by omega), Int.toNat_natCast] at hsx
    exact ⟨k + 1, hn, hsx, by rw [hsx, List.length_take]; omega, fun _ => hfull⟩

theorem Rel.sxPush {c : Cfg} {r : drivers.Reader} {s : St} (h : Rel c r s) {n : Nat} (hn : r.sysexlen = n) (h0 : 0 < n)
    (hnl : n < r.sysexBf.length) (v : Nat) :
    Rel c { r with sysexBf := r.sysexBf.set n v, sysexlen := ((n + 1 : Nat) : Int) } { s with sx := s.sx ++ [v] } := by
  obtain ⟨hm, hst, hty, hp, hsx, _, hlb, hts, hsxts, hbuf, hhs, hnp⟩ := h
  have hfull : r.sysexBf.length = c.bufSize := (hlb (by omega)).1
  refine ⟨hm, hst, hty, hp, ?_, Int.natCast_nonneg _, fun _ => ⟨?_, ?_⟩, hts, hsxts, hbuf, hhs, hnp⟩
  · show s.sx ++ [v] = sxOf _
    simp only [sxOf, Int.toNat_natCast, take_succ_set _ _ _ hnl]
    rw [if_pos (by omega), hsx, sxOf, hn, if_pos (by omega)]
    rfl
  · simp only [List.length_set]; exact hfull
  · show ((n + 1 : Nat) : Int) ≤ _
    omega

theorem quiet {l : List drivers.Reader.Ev} : evFrames l = evFrames l ++ ([] : List Frame).map wrapFrame :=
  (List.append_nil _).symm

theorem emit_frames {c : Cfg} {r : drivers.Reader} {s : St} (h : Rel c r s) (f : Bytes) :
    evFrames (r.trace ++ [.OnMsg f r.ts_ms]) = evFrames r.trace ++ [(f, s.ts)].map wrapFrame := by
  have ⟨_, _, _, _, _, _, _, hts, _⟩ := h
  rw [evFrames_append, hts]
  rfl

/-- `withinChannelMessage` in the shape of the model's `withinChan`: the source repeats one block for each of the two
    kinds with one data byte and one for each of the five kinds with two -/
theorem wcm_eq (r : drivers.Reader) (b : Nat) :
    drivers.Reader.withinChannelMessage r b =
      if r.typ = 0xD ∨ r.typ = 0xC then
        .ok { r with issetBf := false, state := 0, trace := r.trace ++ [.OnMsg [r.statusByte, b, 0] r.ts_ms] }
      else if r.typ = 0xB ∨ r.typ = 0x9 ∨ r.typ = 0x8 ∨ r.typ = 0xA ∨ r.typ = 0xE then
        if r.issetBf = true then
          .ok { r with issetBf := false, state := 0, trace := r.trace ++ [.OnMsg [r.statusByte, r.bf, b] r.ts_ms] }
        else .ok { r with issetBf := true, bf := b }
      else throw "panic" := by
  unfold drivers.Reader.withinChannelMessage
  by_cases h1 : r.typ = 0xD ∨ r.typ = 0xC
  · rw [if_pos h1]
    rcases h1 with h | h <;> simp only [h, ↓reduceIte, Nat.reduceEqDiff] <;> rfl
  rw [if_neg h1]
  by_cases h2 : r.typ = 0xB ∨ r.typ = 0x9 ∨ r.typ = 0x8 ∨ r.typ = 0xA ∨ r.typ = 0xE
  · rw [if_pos h2]
    rcases h2 with h | h | h | h | h <;> simp only [h, ↓reduceIte, Nat.reduceEqDiff] <;> cases r.issetBf <;> rfl
  · rw [if_neg h2]
    have : ¬ r.typ = 13 ∧ ¬ r.typ = 12 ∧ ¬ r.typ = 11 ∧ ¬ r.typ = 9 ∧ ¬ r.typ = 8 ∧ ¬ r.typ = 10 ∧ ¬ r.typ = 14 := by
      omega
    simp only [this, ↓reduceIte]
    rfl

theorem wcm_sim (c : Cfg) (r : drivers.Reader) (s : St) (h : Rel c r s) (b : Nat) :
    Sim c r.trace (drivers.Reader.withinChannelMessage r b) (withinChan s b) := by
  -- `Rel` fixes the control fields of `s`: write them in terms of `r`
  obtain ⟨mode, status, typ, pend, sx, sxTs, ts, panicked⟩ := s
  have ⟨hm, hst, hty, hp, _⟩ := h
  simp only at hm hst hty hp
  subst hst hty hp
  rw [wcm_eq]
  unfold withinChan
  refine Sim.ite .rfl (fun _ => ⟨h.ctrl .clean rfl, emit_frames h _⟩) fun _ => Sim.ite .rfl (fun _ => ?_) fun _ => rfl
  cases hb : r.issetBf
  · exact ⟨h.ctrl mode hm, quiet⟩
  · exact ⟨h.ctrl .clean rfl, emit_frames h _⟩

theorem cs_sim (c : Cfg) (r : drivers.Reader) (s : St) (h : Rel c r s) (b : Nat) (hb : b < 256) :
    Sim c r.trace (drivers.Reader.cleanState r b) (cleanState s b) := by
  obtain ⟨mode, status, typ, pend, sx, sxTs, ts, panicked⟩ := s
  have ⟨hm, hst, hty, hp, _, _, _, _, _, hbuf, _⟩ := h
  simp only at hm hst hty hp
  subst hst hty hp
  have hpos : 0 < r.SysExBufferSize := hbuf ▸ bufSize_pos c
  unfold drivers.Reader.cleanState cleanState
  refine Sim.ite .rfl (fun h0 => ?_) fun _ => Sim.ite .rfl (fun h7 => ?_) fun _ => Sim.ite .rfl (fun _ => ?_) fun _ =>
    Sim.ite .rfl (fun _ => ?_) fun _ => Sim.ite .rfl (fun _ => ?_) fun _ => ⟨h, quiet⟩
  · subst h0
    simp only [setIdx_rep0 _ _ hpos, Go.ok_bind]
    exact ⟨h.sxStart.ctrl .sysex rfl, quiet⟩
  · subst h7
    exact ⟨h.sxClear.ctrl mode hm, emit_frames h _⟩
  · refine Sim.ite .rfl (fun _ => ⟨h.ctrl .sysc rfl, quiet⟩) fun _ =>
      Sim.ite .rfl (fun h6 => ?_) fun _ => ⟨h.ctrl .unknown rfl, quiet⟩
    subst h6
    exact ⟨h.ctrl mode hm, emit_frames h _⟩
  · rw [← parseStatus_fst hb]
    exact ⟨h.ctrl .chan rfl, quiet⟩
  · show Sim c r.trace (drivers.Reader.withinChannelMessage { r with state := 1 } b >>= pure) _
    rw [bind_pure]
    exact wcm_sim c { r with state := 1 } _ (h.ctrl .chan rfl) b

theorem eb_sx_sim (c : Cfg) (hc : c.buf < 4294967296) (r : drivers.Reader) (s : St) (h : Rel c r s) (b : Nat)
    (hb : b < 256) (hm : s.mode = .sysex) (hb8 : b < 248) :
    Sim c r.trace (drivers.Reader.eachByte r b) (step c s b) := by
  obtain ⟨mode, status, typ, pend, sx, sxTs, ts, panicked⟩ := s
  have ⟨hstate, hst, hty, hp, _, _, _, _, hsxts, hbuf, hhs, _⟩ := h
  simp only at hstate hst hty hp hsxts hm
  subst hst hty hp hm
  obtain ⟨n, hn, hsx, hlen, hfull⟩ := h.buf
  simp only at hsx hlen
  have hpos : 0 < r.SysExBufferSize := hbuf ▸ bufSize_pos c
  have hlt := bufSize_lt c hc
  unfold drivers.Reader.eachByte step
  rw [if_neg (show ¬ b ≥ 248 by omega), if_neg (show ¬ 248 ≤ b by omega)]
  simp only [hstate, modeCode, isStatus_eq hb, Int.reduceEq, or_self, and_false, ↓reduceIte, reduceCtorEq, sysexStep]
  have c1 : (r.HandleSysex = true ∧ r.sysexlen > 0) ↔ (c.sysex = true ∧ sx ≠ []) := by
    rw [hhs, hn, ← List.length_pos_iff, hlen]
    exact and_congr_right' (by omega)
  have c2 : r.HandleSysex = true ∧ r.sysexlen > 0 → (r.sysexlen < ↑r.sysexBf.length ↔ sx.length < c.bufSize) := by
    intro h0
    rw [hn] at h0 ⊢
    rw [hlen, ← hfull (by omega)]
    omega
  -- storing a byte: the next cell exists, and `sysexlen` stays far below 2^63
  have push : c.sysex = true ∧ sx ≠ [] → sx.length < c.bufSize → ∀ v, 0 < n ∧ n < r.sysexBf.length ∧
      Go.setIdx r.sysexBf r.sysexlen v = .ok (r.sysexBf.set n v) ∧
      Go.wrapS 64 (r.sysexlen + 1) = ((n + 1 : Nat) : Int) := by
    intro hsto hfit v
    have h0 := (c1.2 hsto).2
    rw [hn] at h0 ⊢
    have hnl : n < r.sysexBf.length := by rw [hfull (by omega), ← hlen]; exact hfit
    exact ⟨by omega, hnl, Go.setIdx_nat v hnl, Go.wrapS64_succ n (by omega)⟩
  refine Sim.ite .rfl (fun h0 => ?_) fun _ => Sim.ite .rfl (fun h7 => ?_) fun _ =>
    Sim.ite decide_eq_true_iff (fun _ => ?_) fun _ => Sim.ite c1 (fun hsto => ?_) fun _ => ⟨h, quiet⟩
  · subst h0
    simp only [setIdx_rep0 _ _ hpos, Go.ok_bind]
    exact ⟨h.sxStart.ctrl .sysex rfl, quiet⟩
  · subst h7
    rw [apply_ite (Prod.mk _)]
    refine Sim.ite (((and_congr_right c2).trans (and_congr_left' c1)).trans and_assoc) (fun hcond => ?_) fun _ =>
      ⟨h.sxClear.ctrl .clean rfl, quiet⟩
    -- the sysex is complete and fits: `F7` is stored, the filled cells are copied out and handed on
    obtain ⟨_, hnl, e1, e2⟩ := push ⟨hcond.1, hcond.2.1⟩ hcond.2.2 247
    rw [e1, e2, Go.ok_bind, Int.toNat_natCast, Int.sub_zero, Int.toNat_natCast,
      copy_loop _ _ (n + 1) (by rw [List.length_set]; exact hnl) List.length_replicate]
    refine ⟨h.sxClear.ctrl .clean rfl, ?_⟩
    rw [take_succ_set _ _ _ hnl, ← hsx, hsxts]
    exact evFrames_append _ _
  · -- another status byte ends the sysex: the clean-state rules apply to it
    exact cs_sim c _ _ (h.sxClear.ctrl .clean rfl) b hb
  · -- a data byte is stored, or the buffer is full and the message is dropped
    refine Sim.ite (c2 (c1.2 hsto)) (fun hfit => ?_) fun _ => ⟨(h.sxClear (bf := r.sysexBf)).ctrl .sysex rfl, quiet⟩
    obtain ⟨hn0, hnl, e1, e2⟩ := push hsto hfit b
    rw [e1, e2]
    exact ⟨(h.sxPush hn hn0 hnl b).ctrl .sysex rfl, quiet⟩

theorem eb_sim (c : Cfg) (hc : c.buf < 4294967296) (r : drivers.Reader) (s : St) (h : Rel c r s) (b : Nat) (hb : b < 256) :
    Sim c r.trace (drivers.Reader.eachByte r b) (step c s b) := by
  by_cases hrt : 248 ≤ b
  · unfold drivers.Reader.eachByte step
    rw [if_pos hrt, if_pos hrt]
    exact ⟨h, emit_frames h _⟩
  have hb8 : b < 248 := by omega
  by_cases hsx : s.mode = .sysex
  · exact eb_sx_sim c hc r s h b hb hsx hb8
  obtain ⟨mode, status, typ, pend, sx, sxTs, ts, panicked⟩ := s
  have ⟨hm, hst, hty, hp, _⟩ := h
  simp only at hm hst hty hp
  subst hst hty hp
  unfold drivers.Reader.eachByte step
  rw [if_neg hrt, if_neg (show ¬ b ≥ 248 from hrt)]
  cases mode
  case sysex => exact absurd rfl hsx
  case clean =>
    simp only [modeCode] at hm
    simp only [hm, isStatus_eq hb, Int.reduceEq, or_self, and_false, ↓reduceIte, reduceCtorEq, bind_pure]
    exact cs_sim c r _ h b hb
  case unknown =>
    simp only [modeCode] at hm
    simp only [hm, isStatus_eq hb, Int.reduceEq, or_self, and_false, ↓reduceIte, reduceCtorEq, bind_pure]
    exact Sim.ite decide_eq_true_iff (fun _ => cs_sim c _ _ (h.ctrl .clean rfl) b hb) fun _ => ⟨h, quiet⟩
  case chan =>
    simp only [modeCode] at hm
    by_cases hst : 128 ≤ b
    · -- a new status byte abandons the message in progress
      simp only [hm, isStatus_eq hb, hst, decide_true, Int.reduceEq, true_or, and_self, ↓reduceIte, bind_pure]
      exact cs_sim c _ _ (h.ctrl .clean rfl) b hb
    · simp only [hm, isStatus_eq hb, hst, decide_false, Bool.false_eq_true, false_and, Int.reduceEq, ↓reduceIte,
        bind_pure]
      exact wcm_sim c r _ h b
  case sysc =>
    simp only [modeCode] at hm
    by_cases hst : 128 ≤ b
    · simp only [hm, isStatus_eq hb, hst, decide_true, Int.reduceEq, or_true, and_self, ↓reduceIte, bind_pure]
      exact cs_sim c _ _ (h.ctrl .clean rfl) b hb
    · simp only [hm, isStatus_eq hb, hst, decide_false, Bool.false_eq_true, false_and, Int.reduceEq, ↓reduceIte,
        syscStep]
      -- the code asks for `F1`, `F2`, `F3` in turn, the model for `F1 ∨ F3` first
      by_cases h13 : r.typ = 241 ∨ r.typ = 243
      · rw [if_pos h13]
        rcases h13 with h1 | h3
        · rw [if_pos h1]
          exact ⟨h.ctrl .clean rfl, emit_frames h _⟩
        · rw [if_neg (show ¬ r.typ = 241 by omega), if_neg (show ¬ r.typ = 242 by omega), if_pos h3]
          exact ⟨h.ctrl .clean rfl, emit_frames h _⟩
      rw [if_neg h13, if_neg (fun e => h13 (Or.inl e))]
      refine Sim.ite .rfl (fun h2 => ?_) fun _ => ?_
      · cases hbf : r.issetBf
        · exact ⟨h.ctrl .sysc rfl, quiet⟩
        · rw [h2]
          exact ⟨h2 ▸ h.ctrl .clean rfl, emit_frames h _⟩
      -- `F6` or no known type: no frame (`OnErr` is called at most)
      rw [if_neg (fun e => h13 (Or.inr e))]
      split
      · exact ⟨h, quiet⟩
      split
      · exact ⟨h.ctrl .sysc rfl, by simp [evFrames]⟩
      · exact ⟨h, quiet⟩

theorem em_eq (r : drivers.Reader) (bt : Bytes) (d : Int) :
    drivers.Reader.EachMessage r bt d =
      List.foldlM (fun r b => drivers.Reader.eachByte r b) { r with ts_ms := Go.wrapS 32 (r.ts_ms + d) } bt := by
  unfold drivers.Reader.EachMessage drivers.Reader.setDelta
  simp

theorem bytes_sim (c : Cfg) (hc : c.buf < 4294967296) :
    ∀ (bs : Bytes) (r : drivers.Reader) (s : St), Rel c r s → Inv c s → (∀ b ∈ bs, b < 256) →
      ∃ r', List.foldlM (fun r b => drivers.Reader.eachByte r b) r bs = .ok r' ∧
        Rel c r' (feed c s (bs.map .byte)).1 ∧
        evFrames r'.trace = evFrames r.trace ++ (feed c s (bs.map .byte)).2.map wrapFrame := by
  intro bs
  induction bs with
  | nil => intro r s h hi _; exact ⟨r, rfl, h, by simp [feed]⟩
  | cons b bs ih =>
    intro r s h hi hb
    have hb1 : b < 256 := hb b (by simp)
    have hinv := (step_inv c s b hi).1
    obtain ⟨r1, hres, hrel, hfr⟩ := (eb_sim c hc r s h b hb1).ok hinv.no_panic
    obtain ⟨r', h1, h2, h3⟩ := ih r1 (step c s b).1 hrel hinv (fun x hx => hb x (by simp [hx]))
    rw [List.foldlM_cons, hres]
    refine ⟨r', h1, ?_, ?_⟩
    · simpa [feed, stepTok] using h2
    · simp only [List.map_cons, feed, stepTok, List.map_append]
      rw [h3, hfr, List.append_assoc]

theorem em_sim (c : Cfg) (hc : c.buf < 4294967296) (r : drivers.Reader) (s : St) (h : Rel c r s) (hi : Inv c s)
    (bt : Bytes) (d : Int) (hb : ∀ b ∈ bt, b < 256) :
    ∃ r', drivers.Reader.EachMessage r bt d = .ok r' ∧
      Rel c r' (feed c s (.tick d :: bt.map .byte)).1 ∧
      evFrames r'.trace = evFrames r.trace ++ (feed c s (.tick d :: bt.map .byte)).2.map wrapFrame := by
  rw [em_eq]
  have hrel : Rel c { r with ts_ms := Go.wrapS 32 (r.ts_ms + d) } { s with ts := s.ts + d } := by
    obtain ⟨hm, hst, hty, hp, hsx, hl0, hlb, hts, hsxts, hbuf, hhs, hnp⟩ := h
    refine ⟨hm, hst, hty, hp, hsx, hl0, hlb, ?_, hsxts, hbuf, hhs, hnp⟩
    show Go.wrapS 32 (r.ts_ms + d) = wrap32 (s.ts + d)
    rw [hts]
    exact Go.wrapS32_add_left s.ts d
  have hinv : Inv c { s with ts := s.ts + d } := (stepTok_inv c s (.tick d) hi).1
  obtain ⟨r', h1, h2, h3⟩ := bytes_sim c hc bt _ _ hrel hinv hb
  exact ⟨r', h1, by simpa [feed, stepTok] using h2, by simpa [feed, stepTok] using h3⟩

/-- `drivers.NewReader(config, onMsg)` as far as the translated part goes: the zero `Reader` with the configuration
    fields set, then `Reset()` -/
def newReader (c : Cfg) : Except String drivers.Reader :=
  drivers.Reader.Reset { SysExBufferSize := c.buf, HandleSysex := c.sysex, OnMsg_set := true }

theorem rel_init (c : Cfg) (bf : Bytes) :
    Rel c { sysexBf := bf, SysExBufferSize := c.bufSize, HandleSysex := c.sysex, OnMsg_set := true } init := by
  simp [Rel, init, modeCode, sxOf, wrap32]

theorem newReader_eq (c : Cfg) : ∃ bf, newReader c =
    .ok { sysexBf := bf, SysExBufferSize := c.bufSize, HandleSysex := c.sysex, OnMsg_set := true } := by
  unfold newReader drivers.Reader.Reset Cfg.bufSize
  by_cases h : c.buf = 0
  · simp only [h, ↓reduceIte]; exact ⟨_, rfl⟩
  · simp only [h, ↓reduceIte]; exact ⟨_, rfl⟩

theorem newReader_rel (c : Cfg) : ∃ r0, newReader c = .ok r0 ∧ Rel c r0 init ∧ r0.trace = [] := by
  obtain ⟨bf, h⟩ := newReader_eq c
  exact ⟨_, h, rel_init c bf, rfl⟩

def goFeed : drivers.Reader → List (Int × Bytes) → Except String drivers.Reader
  | r, [] => pure r
  | r, (d, bs) :: rest => do
    let r' ← drivers.Reader.EachMessage r bs d
    goFeed r' rest

theorem goFeed_sim (c : Cfg) (hc : c.buf < 4294967296) :
    ∀ (chunks : List (Int × Bytes)) (r : drivers.Reader) (s : St), Rel c r s → Inv c s →
      (∀ ch ∈ chunks, ∀ b ∈ ch.2, b < 256) →
      ∃ r', goFeed r chunks = .ok r' ∧ Rel c r' (feed c s (chunkToks chunks)).1 ∧
        evFrames r'.trace = evFrames r.trace ++ (feed c s (chunkToks chunks)).2.map wrapFrame := by
  intro chunks
  induction chunks with
  | nil => intro r s h _ _; exact ⟨r, rfl, h, by simp [chunkToks, feed]⟩
  | cons ch rest ih =>
    intro r s h hi hb
    obtain ⟨d, bs⟩ := ch
    obtain ⟨r1, e1, hr1, ht1⟩ := em_sim c hc r s h hi bs d (fun b hb' => hb (d, bs) (by simp) b hb')
    have hi1 : Inv c (feed c s (.tick d :: bs.map .byte)).1 := (feed_inv c _ s hi).1
    obtain ⟨r', e2, hr2, ht2⟩ := ih r1 _ hr1 hi1 (fun ch hch => hb ch (by simp [hch]))
    have e : chunkToks ((d, bs) :: rest) = (.tick d :: bs.map .byte) ++ chunkToks rest := by simp [chunkToks]
    rw [e, feed_append]
    refine ⟨r', ?_, hr2, ?_⟩
    · simp only [goFeed, e1]
      exact e2
    · rw [ht2, ht1]
      simp [List.append_assoc]
end Midi.Tie
