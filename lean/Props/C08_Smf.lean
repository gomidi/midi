import MidiModel.Generated.SmfMetaGo
import Props.C08_Code
/-!
# C08, tie to the source: the SMF-level classification — `smf.Message.Type`, `smf.getType`, `IsMeta`, `getMetaType`
with the `metaMessages` table, `smf.Message.Is` (`smf/message.go`, `smf/meta.go`) — as translated is the model's
`smfGetType` / `msgIs .smf`, for every byte string and every type code.
-/
open Midi Midi.Go Midi.Msg
namespace Midi.C08

theorem code_metaMessages (b : Nat) : smf.metaMessages b = metaMessages b := rfl

theorem code_getMetaType (b : Nat) : smf.getMetaType b = getMetaType b := by
  unfold smf.getMetaType getMetaType
  rw [code_metaMessages]
  cases metaMessages b <;> rfl

/-- `smf.Message.Type()` (through `smf.getType`, `IsMeta`, `getMetaType`) is the model's `smfGetType`: nothing, a lone
    `FF`, `FF` and a type byte, or a message of `midi.Message` -/
theorem code_smf_Type (m : Bytes) : ∃ t, smfGetType m = some t ∧ smf.Message.Type' m = .ok t := by
  unfold smf.Message.Type' smf.getType smf.Message.IsMeta
  rcases m with _ | ⟨b, r⟩
  · exact ⟨0, rfl, rfl⟩
  · have hl := len_cons_ne_zero b r
    by_cases hb : b = 255
    · subst hb
      rcases r with _ | ⟨c, r⟩
      · exact ⟨0, rfl, rfl⟩
      · have h1 : ¬ (((255 :: c :: r).length : Nat) : Int) = 1 := by
          simp only [List.length_cons]
          omega
        refine ⟨_, smfGetType_meta c r, ?_⟩
        simp only [hl, h1, ↓reduceIte, go_eval, decide_true, code_getMetaType]
        rfl
    · refine ⟨_, smfGetType_plain b r hb, ?_⟩
      simp only [hl, hb, ↓reduceIte, go_eval, decide_false, code_Type_cons]
      rfl

theorem code_smf_Is (m : Bytes) (c : Int) : ∃ b, msgIs .smf m c = some b ∧ smf.Message.Is m c = .ok b := by
  obtain ⟨t, h1, h2⟩ := code_smf_Type m
  refine ⟨_, msgIs_of_type (v := .smf) h1 c, ?_⟩
  simp only [smf.Message.Is, ↓Go.bind_eq_of_pure h2, code_Type_Is]
  rfl

theorem code_smf_IsOneOf (m : Bytes) (cs : List Int) :
    ∃ b, isOneOf .smf m cs = some b ∧ smf.Message.IsOneOf m cs = .ok b :=
  oneOf_loop .smf m _ (code_smf_Is m) cs

end Midi.C08
