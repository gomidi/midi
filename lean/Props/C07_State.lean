import MidiModel.Generated.StateShape
import Proofs.StateShapeExpected
/-!
# C07, tie to the source: the state the code keeps has the shape the model assumes
(the packages this property's models read; the comparison is explained in `Props/C01_State.lean`)
-/
namespace Midi.C07
theorem code_state_shape_root : Midi.StateShape.root = Midi.StateShapeExpected.root := rfl
theorem code_state_shape_internal_utils : Midi.StateShape.internal_utils = Midi.StateShapeExpected.internal_utils := rfl
end Midi.C07
