import Proofs.LiveInv
/-!
# Live decoder: the listen options are projections (C14)

Of the configuration the decoder reads `sysex` and `bufSize` only (`feed_congr`), so with the sysex option on
the run under `c` IS the run under `allOn c`. With the option off the two runs differ in the sysex buffer and
in nothing else (`step_sxoff`): the run under `c` hands over no sysex, the other one's sysex frames start with
`F0` and the filter removes them. The invariant is needed for the buffer at the start, and for the frames to be well
formed where the filter on the frame is compared with the filter on the delivered message (`keepMsg_retype`).
-/
namespace Midi.Live
open Midi

def allOn (c : Cfg) : Cfg := { c with sysex := true, as := true, tc := true }

/-- the option filter judged on the delivered message: drops exactly active sense (FE) / timing clock (F8) /
    sysex (F0…) messages whose option is off -/
def keepMsg (c : Cfg) (m : Option Bytes × Int) : Bool :=
  match m.1 with
  | some (h :: _) => !((h = 0xFE && !c.as) || (h = 0xF8 && !c.tc) || (h = 0xF0 && !c.sysex))
  | _ => true

theorem allOn_bufSize (c : Cfg) : (allOn c).bufSize = c.bufSize := rfl

theorem allOn_AllOn (c : Cfg) : LiveWire.AllOn (allOn c) := ⟨rfl, rfl, rfl⟩

theorem step_congr (c c' : Cfg) (s : St) (b : Nat) (h1 : c.sysex = c'.sysex) (h2 : c.bufSize = c'.bufSize) :
    step c s b = step c' s b := by
  unfold step sysexStep
  rw [h1, h2]

theorem feed_congr (c c' : Cfg) (toks : List Tok) (h1 : c.sysex = c'.sysex) (h2 : c.bufSize = c'.bufSize) :
    ∀ s, feed c s toks = feed c' s toks := by
  induction toks with
  | nil => intro s; rfl
  | cons t ts ih =>
    intro s
    have e : stepTok c s t = stepTok c' s t := by
      cases t with
      | byte b => exact step_congr c c' s b h1 h2
      | tick d => rfl
    simp only [feed, e, ih]

/-! `withinChan`, `syscStep` and `cleanState` do not look at the sysex buffer -/

theorem withinChan_sx (s : St) (x : Bytes) (b : Nat) :
    withinChan { s with sx := x } b = ({ (withinChan s b).1 with sx := x }, (withinChan s b).2) := by
  simp only [withinChan]
  split
  · rfl
  · split
    · split <;> rfl
    · rfl

theorem syscStep_sx (s : St) (x : Bytes) (b : Nat) :
    syscStep { s with sx := x } b = ({ (syscStep s b).1 with sx := x }, (syscStep s b).2) := by
  simp only [syscStep]
  split
  · rfl
  · split
    · split <;> rfl
    · rfl

/-- a buffer as the decoder keeps it: dropped, or begun with `F0` -/
def SxOk (x : Bytes) : Prop := x = [] ∨ ∃ d, x = 0xF0 :: d

theorem cleanState_status_sx (s : St) (x : Bytes) (b : Nat) (hx : SxOk x) (h1 : 0x80 ≤ b) (h2 : b < 0xF8) :
    ∃ x', SxOk x' ∧ cleanState { s with sx := x } b = ({ (cleanState s b).1 with sx := x' }, (cleanState s b).2) := by
  rcases status_cases h1 h2 with hc | hs | hu | rfl | rfl | rfl
  · exact ⟨x, hx, by rw [cleanState_chanStatus _ b hc.1 hc.2, cleanState_chanStatus _ b hc.1 hc.2]⟩
  · exact ⟨x, hx, by rw [cleanState_syscStatus _ b hs, cleanState_syscStatus _ b hs]⟩
  · exact ⟨x, hx, by rw [cleanState_undefined _ b hu, cleanState_undefined _ b hu]⟩
  · exact ⟨x, hx, by rw [cleanState_tune, cleanState_tune]⟩
  · exact ⟨[0xF0], Or.inr ⟨[], rfl⟩, by rw [cleanState_sxStart, cleanState_sxStart]⟩
  · exact ⟨[], Or.inl rfl, by rw [cleanState_sxEnd, cleanState_sxEnd]⟩

theorem keep_F0 (c : Cfg) (u : Bytes) (t : Int) : keep c (0xF0 :: u, t) = c.sysex := by
  cases hh : c.sysex <;> simp [keep, hh]

theorem step_sxoff (c c' : Cfg) (s : St) (x : Bytes) (b : Nat) (hc : c.sysex = false) (hx : SxOk x) :
    ∃ x', SxOk x' ∧ (step c' { s with sx := x } b).1 = { (step c s b).1 with sx := x' } ∧
      (step c' { s with sx := x } b).2.filter (keep c) = (step c s b).2.filter (keep c) := by
  -- the two states have the same mode, so the same equation of `Proofs/LiveStep.lean` applies to both
  have up : ∀ m, s.mode = m → ({ s with sx := x } : St).mode = m := fun _ h => h
  rcases byte_cases s b with hrt | ⟨rfl, hm⟩ | ⟨hst, hb, h7⟩ | ⟨hd, hm | hm | hm | hm | hm⟩
  · exact ⟨x, hx, by rw [step_rt c' _ b hrt, step_rt c s b hrt], by rw [step_rt c' _ b hrt, step_rt c s b hrt]⟩
  · rw [step_sysex_end c' _ (up _ hm), step_sysex_end c s hm]
    refine ⟨[], Or.inl rfl, rfl, ?_⟩
    have e : ¬ (c.sysex = true ∧ s.sx ≠ [] ∧ s.sx.length < c.bufSize) := by simp [hc]
    rw [if_neg e]
    split
    · next h =>
      rcases hx with rfl | ⟨d, rfl⟩
      · exact absurd rfl h.2.1
      · simp [keep_F0, hc]
    · rfl
  · rw [step_status c' { s with sx := x } b hst hb h7, step_status c s b hst hb h7, St.idle_sx]
    have hx0 : SxOk (if s.mode = .sysex then [] else x) := by
      split
      · exact Or.inl rfl
      · exact hx
    obtain ⟨x', hx', e⟩ := cleanState_status_sx s.idle _ b hx0 hst hb
    exact ⟨x', hx', congrArg Prod.fst e, by rw [congrArg Prod.snd e]⟩
  · rw [step_clean_data c' _ b (up _ hm) hd, step_clean_data c s b hm hd]
    refine ⟨x, hx, ?_⟩
    by_cases hs : s.status ≠ 0
    · rw [if_pos hs, if_pos hs]
      have := withinChan_sx { s with mode := .chan } x b
      exact ⟨congrArg Prod.fst this, by rw [congrArg Prod.snd this]⟩
    · rw [if_neg hs, if_neg hs]
      exact ⟨rfl, rfl⟩
  · rw [step_chan_data c' _ b (up _ hm) hd, step_chan_data c s b hm hd, withinChan_sx]
    exact ⟨x, hx, rfl, rfl⟩
  · rw [step_sysc_data c' _ b (up _ hm) hd, step_sysc_data c s b hm hd, syscStep_sx]
    exact ⟨x, hx, rfl, rfl⟩
  · rw [step_sysex_data c' _ b (up _ hm) hd, step_sysex_data c s b hm hd]
    refine ⟨_, ?_, rfl, rfl⟩
    show SxOk (if c'.sysex = true ∧ x ≠ [] then (if x.length < c'.bufSize then x ++ [b] else []) else x)
    split
    · split
      · next h _ =>
        rcases hx with rfl | ⟨d, rfl⟩
        · exact absurd rfl h.2
        · exact Or.inr ⟨d ++ [b], rfl⟩
      · exact Or.inl rfl
    · exact hx
  · rw [step_unknown_data c' _ b (up _ hm) hd, step_unknown_data c s b hm hd]
    exact ⟨x, hx, rfl, rfl⟩

theorem feed_sxoff (c c' : Cfg) (hc : c.sysex = false) (toks : List Tok) :
    ∀ (s : St) (x : Bytes), SxOk x →
      (feed c' { s with sx := x } toks).2.filter (keep c) = (feed c s toks).2.filter (keep c) := by
  induction toks with
  | nil => intro s x _; rfl
  | cons t ts ih =>
    intro s x hx
    simp only [feed, List.filter_append]
    cases t with
    | byte b =>
      obtain ⟨x', hx', e1, e2⟩ := step_sxoff c c' s x b hc hx
      simp only [stepTok]
      rw [e1, e2, ih _ x' hx']
    | tick d => exact congrArg _ (ih { s with ts := s.ts + d } x hx)

theorem frames_projection (c : Cfg) (toks : List Tok) (s : St) (hi : Inv (allOn c) s) :
    (feed c s toks).2.filter (keep c) = (feed (allOn c) s toks).2.filter (keep c) := by
  cases hc : c.sysex with
  | true => rw [feed_congr c (allOn c) toks (by rw [hc]; rfl) rfl]
  | false =>
    have hx : SxOk s.sx := by
      by_cases hm : s.mode = .sysex
      · rcases hi.sx_sysex hm with h | ⟨d, h, _⟩
        · exact Or.inl h
        · exact Or.inr ⟨d, h⟩
      · exact Or.inl (hi.sx_other hm)
    exact (feed_sxoff c (allOn c) hc toks s s.sx hx).symm

theorem filter_filterMap_of {α β : Type} (p : β → Bool) (q : α → Bool) (g : α → Option β) (l : List α)
    (h : ∀ x ∈ l, ∀ y, g x = some y → p y = q x) : (l.filterMap g).filter p = (l.filter q).filterMap g := by
  induction l with
  | nil => rfl
  | cons x xs ih =>
    have ih' := ih (fun a ha => h a (List.mem_cons_of_mem _ ha))
    cases hg : g x with
    | none => cases hq : q x <;> simp [hg, hq, ih']
    | some y =>
      have hpq := h x List.mem_cons_self y hg
      cases hq : q x <;> simp [hg, hq, hpq, ih']

theorem keepMsg_retype (c c' : Cfg) (f : Frame) (hw : WfFrame c' f) (m : Option Bytes) (hr : retype f.1 = some m) :
    keepMsg c (m, f.2) = keep c f := by
  obtain ⟨h7, bs, rfl, _, hh⟩ := retype_wf_some hw hr
  obtain ⟨x, r, hf, _⟩ := hw.cons
  rw [hf] at hh h7
  cases bs with
  | nil => simp at hh
  | cons y r' =>
    simp only [List.head?_cons, Option.some.injEq] at hh h7
    subst hh
    have h7' : ¬ y = 0xF7 := fun e => h7 (by rw [e])
    simp only [keepMsg, keep, hf]
    simp [h7']

theorem listenFrames_projection (c : Cfg) (toks : List Tok) (s : St) (hi : Inv (allOn c) s) :
    listenFrames c (feed c s toks).2 =
      (listenFrames (allOn c) (feed (allOn c) s toks).2).filter (keepMsg c) := by
  have hall : (feed (allOn c) s toks).2.filter (keep (allOn c)) = (feed (allOn c) s toks).2 :=
    List.filter_eq_self.mpr (fun f _ => keep_allOn (allOn c) (allOn_AllOn c) f)
  unfold listenFrames
  rw [hall, frames_projection c toks s hi]
  symm
  apply filter_filterMap_of
  intro f hf y hy
  have hw := (feed_inv (allOn c) toks s hi).2 f hf
  obtain ⟨m, hm, rfl⟩ := Option.map_eq_some_iff.mp hy
  exact keepMsg_retype c (allOn c) f hw m hm

end Midi.Live
