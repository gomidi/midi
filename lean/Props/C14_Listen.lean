import Props.C04_Listen
/-!
# C14, tie to the source: the re-typing closure of `midi.ListenTo` as translated from `v2/listen.go` follows the model's
`Live.retype` (proved in `Props/C04_Listen.lean`; repeated here because C14 rests on the same code).
-/
namespace Midi.C14
open Midi Midi.Live Midi.Go

theorem code_onMsg_follows_retype (env : midi.ListenTo.onMsg.Env) (data : Bytes) (ms : Int)
    (hs : ∀ s r, data = s :: r → 0x80 ≤ s) (hb : ∀ b ∈ data, b < 256) :
    match retype data with
    | some none => ∃ e, midi.ListenTo.onMsg env data ms = .error e
    | some (some m) => ∃ env', midi.ListenTo.onMsg env data ms = .ok env' ∧ env'.trace = env.trace ++ [.recv m ms]
    | none => ∃ env', midi.ListenTo.onMsg env data ms = .ok env' ∧ env'.trace = env.trace :=
  Midi.C04.code_onMsg_follows_retype env data ms hs hb

end Midi.C14
