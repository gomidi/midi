import MidiModel.Smf
import Proofs.Vlq
/-!
The in-memory reader as a chain of parsers. `Reads p u x`: `p` reads the string `u` as `x`, whatever follows.
`FramedAt`, for every input: whatever a parser returns it has read off a prefix that alone determines the value;
an error is an EOF class, or `other` and then no continuation of the input repairs it. Both are closed under
sequencing, so a reader function written as a `do` block is analysed once, bind by bind.
-/
namespace Midi.Smf

abbrev Parser (α : Type) := Bytes → Except RErr (α × Bytes)

def Reads {α : Type} (p : Parser α) (u : Bytes) (x : α) : Prop := ∀ t, p (u ++ t) = .ok (x, t)

/-- A value in `S` is the exception: it may have been made up at the very end of the input (the swallowed second
    data byte of a channel message). -/
structure FramedAt {α : Type} (S : α → Prop) (p : Parser α) (bs : Bytes) : Prop where
  ok : ∀ x r, p bs = .ok (x, r) → ∃ u, bs = u ++ r ∧ (Reads p u x ∨ (S x ∧ r = []))
  err : ∀ e, p bs = .error e → e = .eof ∨ e = .ueof ∨ (e = .other ∧ ∀ t, p (bs ++ t) = .error .other)

def never {α : Type} : α → Prop := fun _ => False

theorem Reads.bind {α β : Type} {p : Parser α} {k : α × Bytes → Except RErr (β × Bytes)} {u v : Bytes} {x : α} {y : β}
    (hp : Reads p u x) (hk : Reads (fun r => k (x, r)) v y) : Reads (fun bs => p bs >>= k) (u ++ v) y := by
  intro t
  simp only [List.append_assoc, hp (v ++ t), Bind.bind, Except.bind]
  exact hk t

/-- Sequencing in the shape the `do` blocks of the model unfold to, `p bs >>= k` with `k` taking the pair.
    The goal it leaves, `FramedAt S (fun r => k (x, r)) r`, holds the redex `k (x, r)` also inside the `Decidable`
    instances of the `if`s of `k`; `dsimp +instances only` contracts those too, and only then the next
    `FramedAt.bind` finds its shape. -/
theorem FramedAt.bind {α β : Type} {S : β → Prop} {p : Parser α} {k : α × Bytes → Except RErr (β × Bytes)}
    {bs : Bytes} (hp : FramedAt never p bs)
    (hk : ∀ x r, p bs = .ok (x, r) → FramedAt S (fun r => k (x, r)) r) : FramedAt S (fun bs => p bs >>= k) bs := by
  cases h : p bs with
  | error e =>
    have hb : ∀ t, p (bs ++ t) = .error .other → (fun bs => p bs >>= k) (bs ++ t) = .error .other := by
      intro t ht
      simp [ht, Bind.bind, Except.bind]
    refine ⟨fun x r hx => by simp [h, Bind.bind, Except.bind] at hx, fun e' he' => ?_⟩
    have : e' = e := by simpa [h, Bind.bind, Except.bind] using he'.symm
    subst this
    exact (hp.err _ h).imp id (Or.imp id (And.imp id fun h2 t => hb t (h2 t)))
  | ok a =>
    obtain ⟨x, r⟩ := a
    obtain ⟨u, rfl, hR | hR⟩ := hp.ok x r h
    · have hq : ∀ t, p (u ++ t) >>= k = k (x, t) := by
        intro t
        simp [hR t, Bind.bind, Except.bind]
      have hkr := hk x r h
      refine ⟨fun y r2 hy => ?_, fun e he => ?_⟩
      · rw [hq] at hy
        obtain ⟨v, rfl, hV⟩ := hkr.ok y r2 hy
        exact ⟨u ++ v, by simp, hV.imp (Reads.bind hR) id⟩
      · rw [hq] at he
        refine (hkr.err e he).imp id (Or.imp id (And.imp id fun h2 t => ?_))
        rw [List.append_assoc, hq]
        exact h2 t
    · exact hR.1.elim

theorem FramedAt.pure {α : Type} {S : α → Prop} (x : α) (bs : Bytes) : FramedAt S (fun r => .ok (x, r)) bs :=
  ⟨fun y r h => by
      simp only [Except.ok.injEq, Prod.mk.injEq] at h
      obtain ⟨rfl, rfl⟩ := h
      exact ⟨[], rfl, Or.inl fun t => rfl⟩,
   fun e h => by cases h⟩

theorem FramedAt.fail {α : Type} {S : α → Prop} (bs : Bytes) :
    FramedAt S (fun _ => (.error .other : Except RErr (α × Bytes))) bs :=
  ⟨fun y r h => (by cases h), fun e h => by cases h; exact Or.inr (Or.inr ⟨rfl, fun _ => rfl⟩)⟩

variable {α : Type} {S : α → Prop} {p : Parser α} {bs : Bytes}

theorem FramedAt.rest_le (h : FramedAt S p bs) {x : α} {r : Bytes} (hx : p bs = .ok (x, r)) :
    r.length ≤ bs.length := by
  obtain ⟨u, rfl, _⟩ := h.ok x r hx
  simp

theorem FramedAt.rest_lt (h : FramedAt S p bs) (h0 : ∀ y, p [] ≠ .ok y) {x : α} {r : Bytes}
    (hx : p bs = .ok (x, r)) : r.length < bs.length := by
  obtain ⟨u, rfl, hR | ⟨_, rfl⟩⟩ := h.ok x r hx
  · cases u with
    | nil => exact absurd (hR []) (h0 _)
    | cons a u => simp only [List.length_append, List.length_cons]; omega
  · cases u with
    | nil => exact absurd hx (h0 _)
    | cons a u => simp

theorem FramedAt.ne_fuel (h : FramedAt S p bs) {e : RErr} (he : p bs = .error e) : e ≠ .fuel := by
  rcases h.err e he with rfl | rfl | ⟨rfl, _⟩ <;> simp

/-- cut short, an input that `p` reads is not taken for another one: `p` meets the end -/
theorem Reads.cut {u : Bytes} {x : α} (hu : Reads p u x) (m : Nat) (hm : m < u.length)
    (hf : FramedAt S p (u.take m)) :
    (∃ y, S y ∧ p (u.take m) = .ok (y, [])) ∨ p (u.take m) = .error .eof ∨ p (u.take m) = .error .ueof := by
  cases h : p (u.take m) with
  | error e =>
    rcases hf.err e h with rfl | rfl | ⟨rfl, h2⟩
    · exact Or.inr (Or.inl rfl)
    · exact Or.inr (Or.inr rfl)
    · have := h2 (u.drop m)
      rw [List.take_append_drop] at this
      have h0 := hu []
      rw [List.append_nil, this] at h0
      cases h0
  | ok a =>
    obtain ⟨y, r⟩ := a
    obtain ⟨v, hv, hR | ⟨hS, rfl⟩⟩ := hf.ok y r h
    · have h1 := hR (r ++ u.drop m)
      rw [← List.append_assoc, ← hv, List.take_append_drop] at h1
      have h0 := hu []
      rw [List.append_nil, h1] at h0
      simp only [Except.ok.injEq, Prod.mk.injEq, List.append_eq_nil_iff] at h0
      have : (u.drop m).length = 0 := by rw [h0.2.2]; rfl
      simp at this
      omega
    · exact Or.inl ⟨y, hS, rfl⟩

theorem readN_eq (n : Nat) (bs : Bytes) :
    readN n bs = if bs.length < n then .error (if bs = [] then .eof else .ueof) else .ok (bs.take n, bs.drop n) := by
  unfold readN
  by_cases h0 : n = 0
  · simp [h0]
  · by_cases he : bs = []
    · simp [h0, he, Nat.pos_of_ne_zero h0]
    · by_cases hl : bs.length < n <;> simp [h0, he, hl]

theorem readN_ok_iff (n : Nat) (bs d r : Bytes) : readN n bs = .ok (d, r) ↔ bs = d ++ r ∧ d.length = n := by
  rw [readN_eq]
  constructor
  · intro h
    split at h
    · cases h
    · simp only [Except.ok.injEq, Prod.mk.injEq] at h
      obtain ⟨rfl, rfl⟩ := h
      simp
      omega
  · rintro ⟨rfl, rfl⟩
    simp

theorem readN_reads (d : Bytes) : Reads (readN d.length) d d :=
  fun _ => (readN_ok_iff ..).mpr ⟨rfl, rfl⟩

theorem readN_err (n : Nat) (bs : Bytes) (e : RErr) (h : readN n bs = .error e) : e = .eof ∨ e = .ueof := by
  rw [readN_eq] at h
  split at h
  · cases h
    split
    · exact Or.inl rfl
    · exact Or.inr rfl
  · cases h

theorem readN_framed (n : Nat) (bs : Bytes) : FramedAt never (readN n) bs := by
  constructor
  · intro d r h
    obtain ⟨rfl, rfl⟩ := (readN_ok_iff ..).mp h
    exact ⟨d, rfl, Or.inl (readN_reads d)⟩
  · intro e h
    exact (readN_err n bs e h).imp id Or.inl

theorem readByte_framed (bs : Bytes) : FramedAt never readByte bs := by
  cases bs with
  | nil => exact ⟨fun x r h => (by cases h), fun e h => by cases h; exact Or.inl rfl⟩
  | cons b bs =>
    refine ⟨fun x r h => ?_, fun e h => by cases h⟩
    simp only [readByte, Except.ok.injEq, Prod.mk.injEq] at h
    obtain ⟨rfl, rfl⟩ := h
    exact ⟨[b], rfl, Or.inl fun t => rfl⟩

theorem readVlq_framed (bs : Bytes) : FramedAt never readVlq bs := by
  constructor
  · intro v r h
    unfold readVlq at h
    split at h
    · cases h
    · rename_i x hx
      simp only [Except.ok.injEq] at h
      subst h
      obtain ⟨u, rfl, hR⟩ := Vlq.readAux_framed _ _ _ _ _ hx
      refine ⟨u, rfl, Or.inl fun t => ?_⟩
      simp only [readVlq, Vlq.read, hR ((u ++ t).length + 1) t (by simp only [List.length_append]; omega)]
  · intro e h
    unfold readVlq at h
    split at h
    · cases h; exact Or.inr (Or.inl rfl)
    · cases h

/-! `finishChanP`, `readEvP`, `readHeader` below and `step` (`Proofs/SmfLoop.lean`) repeat the text of the model's
`finishChan`, `readEvent`, the header part of `readFrom` and the body of `readLoop` in parser shape; `readEvent_eq`,
`readFrom_header` and `readLoop_succ` tie each to its original by unfolding. They are edited together with the model,
and so are `readLoop_event`, `readLoop_eot` and `readLoop_head` (`Proofs/SmfReads.lean`), which unfold `readLoop` on
their own states and not through `step`. -/

def finishChanP (δ status a1 : Nat) : Parser (Nat × Msg × Nat) := fun bs =>
  .ok (((finishChan δ status a1 bs).delta, (finishChan δ status a1 bs).msg, (finishChan δ status a1 bs).rs),
    (finishChan δ status a1 bs).rest)

def readEvP (rr : Nat) : Parser (Nat × Msg × Nat) := fun bs => do
  let (δ, bs1) ← readVlq bs
  let (c, bs2) ← readByte bs1
  if c = 0xFF then
    let (t, bs3) ← readByte bs2
    let (n, bs4) ← readVlq bs3
    let (d, bs5) ← readN n bs4
    pure ((δ, [0xFF, t] ++ Vlq.encode d.length ++ d, 0), bs5)
  else if c = 0xF0 ∨ c = 0xF7 then
    let (n, bs4) ← readVlq bs2
    let (d, bs5) ← readN n bs4
    pure ((δ, c :: d, 0), bs5)
  else if isChanStatus c then
    let (a1, bs3) ← readByte bs2
    finishChanP δ c a1 bs3
  else if rr = 0 then .error .other
  else finishChanP δ rr c bs2

def mkREv (x : (Nat × Msg × Nat) × Bytes) : REv := ⟨x.1.1, x.1.2.1, x.1.2.2, x.2⟩

theorem except_map_bind {ε α β γ : Type} (x : Except ε α) (f : α → Except ε β) (g : β → γ) :
    (x >>= f).map g = x >>= fun a => (f a).map g := by cases x <;> rfl

theorem readEvent_eq (rr : Nat) (bs : Bytes) : readEvent rr bs = (readEvP rr bs).map mkREv := by
  unfold readEvent readEvP finishChanP
  simp only [except_map_bind, apply_ite (Except.map mkREv)]
  rfl

/-- the message is empty: the second data byte was missing and the error swallowed -/
def Starved (x : Nat × Msg × Nat) : Prop := x.2.1 = []

theorem finishChanP_framed (δ s a1 : Nat) (bs : Bytes) : FramedAt Starved (finishChanP δ s a1) bs := by
  refine ⟨fun x r h => ?_, fun e h => by cases h⟩
  simp only [finishChanP, finishChan, Except.ok.injEq, Prod.mk.injEq] at h
  by_cases h1 : s / 16 = 0xC ∨ s / 16 = 0xD
  · simp only [h1, if_true] at h
    obtain ⟨rfl, rfl⟩ := h
    exact ⟨[], rfl, Or.inl fun t => by simp [finishChanP, finishChan, h1]⟩
  · cases bs with
    | nil =>
      simp only [h1, if_false] at h
      obtain ⟨rfl, rfl⟩ := h
      exact ⟨[], rfl, Or.inr ⟨rfl, rfl⟩⟩
    | cons a2 bs =>
      simp only [h1, if_false] at h
      obtain ⟨rfl, rfl⟩ := h
      exact ⟨[a2], rfl, Or.inl fun t => by simp [finishChanP, finishChan, h1]⟩

theorem readEvP_framed (rr : Nat) (bs : Bytes) : FramedAt Starved (readEvP rr) bs := by
  unfold readEvP
  refine FramedAt.bind (readVlq_framed bs) fun δ bs1 _ => ?_
  dsimp only
  refine FramedAt.bind (readByte_framed bs1) fun c bs2 _ => ?_
  dsimp only
  by_cases hFF : c = 0xFF
  · simp only [hFF, if_true]
    refine FramedAt.bind (readByte_framed bs2) fun t bs3 _ => ?_
    dsimp only
    refine FramedAt.bind (readVlq_framed bs3) fun n bs4 _ => ?_
    dsimp only
    refine FramedAt.bind (readN_framed n bs4) fun d bs5 _ => ?_
    dsimp only
    exact FramedAt.pure _ _
  · by_cases hF0 : c = 0xF0 ∨ c = 0xF7
    · simp only [hFF, hF0, if_true, if_false]
      refine FramedAt.bind (readVlq_framed bs2) fun n bs4 _ => ?_
      dsimp only
      refine FramedAt.bind (readN_framed n bs4) fun d bs5 _ => ?_
      dsimp only
      exact FramedAt.pure _ _
    · by_cases hc : isChanStatus c = true
      · simp only [hFF, hF0, hc, if_true, if_false]
        refine FramedAt.bind (readByte_framed bs2) fun a1 bs3 _ => ?_
        dsimp only
        exact finishChanP_framed _ _ _ _
      · by_cases h0 : rr = 0
        · simp only [hFF, hF0, hc, h0, if_true, if_false]
          exact FramedAt.fail _
        · simp only [hFF, hF0, hc, h0, if_false]
          exact finishChanP_framed _ _ _ _

theorem readEvent_ok_iff (rr : Nat) (bs : Bytes) (ev : REv) :
    readEvent rr bs = .ok ev ↔ readEvP rr bs = .ok ((ev.delta, ev.msg, ev.rs), ev.rest) := by
  rw [readEvent_eq]
  cases readEvP rr bs with
  | error e => simp [Except.map]
  | ok a =>
    obtain ⟨⟨a1, a2, a3⟩, a4⟩ := a
    cases ev
    simp [Except.map, mkREv, and_assoc]

theorem readEvent_error_iff (rr : Nat) (bs : Bytes) (e : RErr) :
    readEvent rr bs = .error e ↔ readEvP rr bs = .error e := by
  rw [readEvent_eq]
  cases readEvP rr bs <;> simp [Except.map]

def ReadsEv (rr : Nat) (u : Bytes) (δ : Nat) (m : Msg) (rs : Nat) : Prop :=
  ∀ t, readEvent rr (u ++ t) = .ok ⟨δ, m, rs, t⟩

theorem readsEv_iff (rr : Nat) (u : Bytes) (δ : Nat) (m : Msg) (rs : Nat) :
    ReadsEv rr u δ m rs ↔ Reads (readEvP rr) u (δ, m, rs) :=
  forall_congr' fun t => readEvent_ok_iff rr (u ++ t) ⟨δ, m, rs, t⟩

theorem readEvent_ok (rr : Nat) (bs : Bytes) (ev : REv) (h : readEvent rr bs = .ok ev) :
    ∃ u, bs = u ++ ev.rest ∧ (ReadsEv rr u ev.delta ev.msg ev.rs ∨ (ev.msg = [] ∧ ev.rest = [])) := by
  obtain ⟨u, hu, hR⟩ := (readEvP_framed rr bs).ok _ _ ((readEvent_ok_iff ..).mp h)
  exact ⟨u, hu, hR.imp (readsEv_iff ..).mpr id⟩

theorem readEvent_err (rr : Nat) (bs : Bytes) (e : RErr) (h : readEvent rr bs = .error e) :
    e = .eof ∨ e = .ueof ∨ (e = .other ∧ ∀ t, readEvent rr (bs ++ t) = .error .other) :=
  ((readEvP_framed rr bs).err _ ((readEvent_error_iff ..).mp h)).imp id
    (Or.imp id (And.imp id fun h2 t => (readEvent_error_iff ..).mpr (h2 t)))

theorem readEvent_rest_lt (rr : Nat) (bs : Bytes) (ev : REv) (h : readEvent rr bs = .ok ev) :
    ev.rest.length < bs.length :=
  (readEvP_framed rr bs).rest_lt (fun y hy => by cases hy) ((readEvent_ok_iff ..).mp h)

theorem ReadsEv.cut {rr : Nat} {u : Bytes} {δ : Nat} {m : Msg} {rs : Nat} (h : ReadsEv rr u δ m rs) (k : Nat)
    (hk : k < u.length) :
    readEvent rr (u.take k) = .error .eof ∨ readEvent rr (u.take k) = .error .ueof ∨
    ∃ δ' s, readEvent rr (u.take k) = .ok ⟨δ', [], s, []⟩ := by
  rcases ((readsEv_iff ..).mp h).cut k hk (readEvP_framed rr _) with ⟨⟨δ', msg, s⟩, hy, h1⟩ | h1 | h1
  · cases (hy : msg = [])
    exact Or.inr (Or.inr ⟨δ', s, (readEvent_ok_iff ..).mpr h1⟩)
  · exact Or.inl ((readEvent_error_iff ..).mpr h1)
  · exact Or.inr (Or.inl ((readEvent_error_iff ..).mpr h1))

/-- the chunk loop reads `a`, a string of whole chunks, up to the start of a track body -/
def ReadsHead (a : Bytes) : Prop := ∀ k f t, a.length < f → chunkLoop f k (a ++ t) = .ok (k + 1, t)

theorem chunkLoop_chunk (f k : Nat) (typ len4 bs : Bytes) (h1 : typ.length = 4) (h2 : len4.length = 4) :
    chunkLoop (f+1) k (typ ++ (len4 ++ bs)) =
      if typ = MTrk then .ok (k + 1, bs)
      else if bs.length < lenOf4 len4 then .error .eof else chunkLoop f k (bs.drop (lenOf4 len4)) := by
  rw [chunkLoop]
  simp only [(readN_ok_iff ..).mpr ⟨rfl, h1⟩, (readN_ok_iff ..).mpr ⟨rfl, h2⟩, Bind.bind, Except.bind]
  rfl

theorem ReadsHead.mtrk (len4 : Bytes) (h : len4.length = 4) : ReadsHead (MTrk ++ len4) := by
  intro k f t hf
  obtain ⟨g, rfl⟩ : ∃ g, f = g + 1 := ⟨f - 1, by omega⟩
  rw [List.append_assoc, chunkLoop_chunk g k MTrk len4 t rfl h, if_pos rfl]

theorem ReadsHead.alien {typ len4 d u : Bytes} (h1 : typ.length = 4) (hne : typ ≠ MTrk) (h2 : len4.length = 4)
    (hd : d.length = lenOf4 len4) (hu : ReadsHead u) : ReadsHead (typ ++ (len4 ++ (d ++ u))) := by
  intro k f t hf
  obtain ⟨g, rfl⟩ : ∃ g, f = g + 1 := ⟨f - 1, by omega⟩
  simp only [List.length_append] at hf
  have hl : ¬ (d ++ (u ++ t)).length < lenOf4 len4 := by simp only [List.length_append]; omega
  simp only [List.append_assoc]
  rw [chunkLoop_chunk g k typ len4 _ h1 h2, if_neg hne, if_neg hl, ← hd, List.drop_left]
  exact hu k g t (by omega)

/-- A value was read off whole chunks, at least the eight bytes of a track chunk's header; with fuel for the
    input the loop fails only for lack of input. -/
theorem chunkLoop_spec : ∀ (f k : Nat) (bs : Bytes),
    (∀ k' r, chunkLoop f k bs = .ok (k', r) → k' = k + 1 ∧ ∃ u, bs = u ++ r ∧ 8 ≤ u.length ∧ ReadsHead u) ∧
    (∀ e, chunkLoop f k bs = .error e → bs.length < f → e = .eof ∨ e = .ueof) := by
  intro f
  induction f with
  | zero => intro k bs; exact ⟨fun _ _ => nofun, fun _ _ hf => by omega⟩
  | succ f ih =>
    intro k bs
    cases h1 : readN 4 bs with
    | error e1 =>
      have : chunkLoop (f+1) k bs = .error e1 := by simp [chunkLoop, h1, Bind.bind, Except.bind]
      rw [this]
      exact ⟨fun _ _ => nofun, fun e h _ => by cases h; exact readN_err _ _ _ h1⟩
    | ok a =>
    obtain ⟨typ, bs1⟩ := a
    obtain ⟨rfl, l1⟩ := (readN_ok_iff ..).mp h1
    cases h2 : readN 4 bs1 with
    | error e2 =>
      have : chunkLoop (f+1) k (typ ++ bs1) = .error e2 := by simp [chunkLoop, h1, h2, Bind.bind, Except.bind]
      rw [this]
      exact ⟨fun _ _ => nofun, fun e h _ => by cases h; exact readN_err _ _ _ h2⟩
    | ok b =>
    obtain ⟨len4, bs2⟩ := b
    obtain ⟨rfl, l2⟩ := (readN_ok_iff ..).mp h2
    rw [chunkLoop_chunk f k typ len4 bs2 l1 l2]
    by_cases hm : typ = MTrk
    · subst hm
      rw [if_pos rfl]
      refine ⟨fun k' r h => ?_, fun _ => nofun⟩
      obtain ⟨rfl, rfl⟩ := Prod.mk.inj (Except.ok.inj h)
      exact ⟨rfl, MTrk ++ len4, by simp, by simp [l1, l2], .mtrk len4 l2⟩
    · rw [if_neg hm]
      by_cases hl : bs2.length < lenOf4 len4
      · rw [if_pos hl]
        exact ⟨fun _ _ => nofun, fun e h _ => by cases h; exact Or.inl rfl⟩
      · rw [if_neg hl]
        obtain ⟨iok, ierr⟩ := ih k (bs2.drop (lenOf4 len4))
        refine ⟨fun k' r h => ?_, fun e h hf => ierr e h ?_⟩
        · obtain ⟨rfl, u, hu, _, hR⟩ := iok k' r h
          refine ⟨rfl, typ ++ (len4 ++ (bs2.take (lenOf4 len4) ++ u)), ?_, by simp only [List.length_append]; omega, ?_⟩
          · simp only [List.append_assoc, ← hu, List.take_append_drop]
          · exact .alien l1 hm l2 (by simp; omega) hR
        · simp only [List.length_append, List.length_drop] at hf ⊢
          omega

theorem lenOf4_be32 (n : Nat) (h : n < 4294967296) : lenOf4 (be32 n) = n := by
  simp only [be32, lenOf4]
  omega

def readHeader : Parser (Nat × Nat × TimeFormat) := fun bs => do
  let (typ, bs1) ← readN 4 bs
  let (_, bs2) ← readN 4 bs1
  if typ ≠ MThd then .error .other else
  let (fm, bs3) ← readN 2 bs2
  if val16 fm > 2 then .error .other else
  let (nt, bs4) ← readN 2 bs3
  let (dv, bs5) ← readN 2 bs4
  pure ((val16 fm, val16 nt, tfOf2 dv), bs5)

def initState (numTracks : Nat) : RState := ⟨numTracks, 0, true, 0, false, List.replicate numTracks []⟩

def finish (format : Nat) (tf : TimeFormat) (r : RState × RErr) : RRes :=
  if r.1.missing then .error .missing
  else if r.2 = .finished ∨ r.2 = .eof then .ok ⟨format, tf, r.1.tracks⟩
  else .error r.2

theorem readFrom_header (bs : Bytes) : readFrom bs =
    match readHeader bs with
    | .error e => .error e
    | .ok ((format, numTracks, tf), bs5) => finish format tf (readLoop (bs5.length + 2) (initState numTracks) bs5) := by
  unfold readFrom readHeader
  simp only [Bind.bind, Except.bind, Pure.pure, Except.pure]
  rcases readN 4 bs with e | ⟨typ, bs1⟩
  · rfl
  dsimp only
  rcases readN 4 bs1 with e | ⟨_, bs2⟩
  · rfl
  dsimp only
  split
  · rfl
  rcases readN 2 bs2 with e | ⟨fm, bs3⟩
  · rfl
  dsimp only
  split
  · rfl
  rcases readN 2 bs3 with e | ⟨nt, bs4⟩
  · rfl
  dsimp only
  rcases readN 2 bs4 with e | ⟨dv, bs5⟩ <;> rfl

theorem be16_dec (n : Nat) (h : n < 65536) : n / 256 % 256 * 256 + n % 256 = n := by
  rw [Nat.mod_eq_of_lt ((Nat.div_lt_iff_lt_mul (by decide)).mpr h)]
  exact Nat.div_add_mod' n 256

theorem readHeader_reads (format n a b : Nat) (hf : format ≤ 2) (hn : n < 65536) :
    Reads readHeader (MThd ++ be32 6 ++ be16 format ++ be16 n ++ [a, b]) (format, n, parseTimeFormat a b) := by
  intro t
  have e1 := be16_dec format (by omega)
  have e2 := be16_dec n hn
  have e3 : ¬ 2 < format := by omega
  have r4 : ∀ (x y z w : Nat) (r : Bytes), readN 4 (x :: y :: z :: w :: r) = .ok ([x, y, z, w], r) :=
    fun x y z w r => readN_reads [x, y, z, w] r
  have r2 : ∀ (x y : Nat) (r : Bytes), readN 2 (x :: y :: r) = .ok ([x, y], r) := fun x y r => readN_reads [x, y] r
  simp [readHeader, MThd, be32, be16, r4, r2, val16, tfOf2, e1, e2, e3, Bind.bind, Except.bind, Pure.pure, Except.pure]

theorem parseTimeFormat_be16 (q : Nat) (h : q ≤ 32767) : parseTimeFormat (q / 256 % 256) (q % 256) = .metric q := by
  have : q / 256 % 256 < 128 := by omega
  simp [parseTimeFormat, this, be16_dec q (by omega)]

theorem parseTimeFormat_smpte (fps sub : Nat) (h1 : 1 ≤ fps) (h2 : fps ≤ 128) :
    parseTimeFormat (256 - fps) sub = .smpte fps sub := by
  have e3 : ¬ (256 - fps < 128) := by omega
  have e5 : 256 - (256 - fps) = fps := by omega
  simp [parseTimeFormat, e3, e5]

theorem readHeader_framed (bs : Bytes) : FramedAt never readHeader bs := by
  unfold readHeader
  refine FramedAt.bind (readN_framed 4 bs) fun typ bs1 _ => ?_
  dsimp +instances only
  refine FramedAt.bind (readN_framed 4 bs1) fun _ bs2 _ => ?_
  dsimp +instances only
  by_cases hm : typ ≠ MThd
  · simp only [if_pos hm]
    exact FramedAt.fail _
  · simp only [if_neg hm]
    refine FramedAt.bind (readN_framed 2 bs2) fun fm bs3 _ => ?_
    dsimp +instances only
    by_cases hf : val16 fm > 2
    · simp only [if_pos hf]
      exact FramedAt.fail _
    · simp only [if_neg hf]
      refine FramedAt.bind (readN_framed 2 bs3) fun nt bs4 _ => ?_
      dsimp only
      refine FramedAt.bind (readN_framed 2 bs4) fun dv bs5 _ => ?_
      dsimp only
      exact FramedAt.pure _ _

end Midi.Smf
