import MidiModel.Smf
import MidiModel.Generated.RunningStatusGo
import Props.C08_Code
/-!
# C01 (and C03), tie to the source: the running-status writer and reader of `internal/runningstatus` as translated are the
running-status rules of the writer model (`Smf.encMsg`, branch `rsOn`) and of the reader model (`Smf.readEvent`: meta /
sysex clear the status, a channel status byte sets it, anything else keeps it).
-/
namespace Midi.C01
open Midi Midi.Go Midi.Msg

/-- `midi.Message(raw).Is(midi.ChannelMsg)` looks at the first byte: a channel status byte -/
theorem chan_class (b : Nat) : typeIs (typeOfStatus b) (-3) = Smf.isChanStatus b := by
  rw [(typeIs_class b).1, Smf.isChanStatus, Bool.decide_and]

/-- `smfwriter.Write`: the body bytes and the new status are those of the writer model with running status on
    (for everything `addMessage` hands to it, i.e. no F0 / F7 first byte) -/
theorem code_rsWrite (rs b0 : Nat) (tl : Bytes) (h : ¬ (b0 = 0xF0 ∨ b0 = 0xF7)) :
    ∃ out rs', Smf.encMsg true rs (b0 :: tl) = some (out, rs') ∧
      runningstatus.smfwriter.Write ⟨rs⟩ (b0 :: tl) = .ok (⟨rs'⟩, out) := by
  have hI : midi.Message.Is (b0 :: tl) (-3) = pure (Smf.isChanStatus b0) := by
    rw [Midi.C08.code_Is_cons, chan_class]
    rfl
  have hs : Go.slice (b0 :: tl) 1 ((b0 :: tl).length : Int) = pure tl := by
    rw [Go.slice_eq (by decide) (by simp only [List.length_cons]; omega) (Nat.le_refl _), Int.toNat_natCast,
      List.take_length]
    rfl
  unfold Smf.encMsg runningstatus.smfwriter.Write
  simp only [go_eval, ↓reduceIte, ↓Go.bind_eq_of_pure hI, ↓Go.bind_eq_of_pure hs, h]
  cases Smf.isChanStatus b0
  · exact ⟨_, _, rfl, rfl⟩
  · by_cases hr : b0 = rs <;> simp only [hr, go_eval, ↓reduceIte] <;> exact ⟨_, _, rfl, rfl⟩

/-- an empty message: index out of range in both -/
theorem code_rsWrite_empty (rs : Nat) :
    Smf.encMsg true rs [] = none ∧ ∃ e, runningstatus.smfwriter.Write ⟨rs⟩ [] = .error e :=
  ⟨rfl, _, rfl⟩

/-- `ResetStatus` (what `addMessage` calls for F0 / F7): status 0 -/
theorem code_rsReset (rs : Nat) : runningstatus.smfwriter.ResetStatus ⟨rs⟩ = .ok ⟨0⟩ := rfl

/-- `smfreader.Read(canary)`: FF / F0 / F7 clear the status, a channel status byte becomes the status, any other
    byte keeps it; `changed` tells which -/
theorem code_rsRead (rr c : Nat) :
    runningstatus.smfreader.Read ⟨⟨rr⟩⟩ c =
      .ok (if c = 0xFF ∨ c = 0xF0 ∨ c = 0xF7 then (⟨⟨0⟩⟩, 0, true)
           else if Smf.isChanStatus c then (⟨⟨c⟩⟩, c, true) else (⟨⟨rr⟩⟩, rr, false)) := by
  unfold runningstatus.smfreader.Read runningstatus.reader.read Smf.isChanStatus
  by_cases h1 : c = 0xFF ∨ c = 0xF0 ∨ c = 0xF7
  · rw [if_pos h1, if_pos (or_assoc.2 h1)]
    rfl
  · rw [if_neg h1, if_neg (mt or_assoc.1 h1)]
    by_cases h4 : 128 ≤ c ∧ c ≤ 239 <;>
      simp only [h4, ge_iff_le, Bool.and_eq_true, decide_eq_true_eq, ↓reduceIte] <;> rfl

end Midi.C01
