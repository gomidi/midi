import Props.C15_Ctor
import Props.C08_Smf
import Proofs.GoLoops
import Proofs.Meta
/-!
# C15, tie to the source: the numeric meta accessors of `smf/message.go` — `GetMetaChannel`, `GetMetaPort`,
`GetMetaSeqNumber`, `GetMetaSMPTEOffsetMsg`, `GetMetaTimeSig`, `GetMetaMeter`, `GetMetaKeySig` (with
`utils.KeyFromSharpsOrFlats` and its clamp loop) — and the classification they rest on (`smf.Message.Is` through
`smf.getType`, `getMetaType` and the `metaMessages` table) as translated are the model's accessors
(`MidiModel/Meta.lean`): for every byte string (where `ParseUint16` or `bin2decDenom` is applied to the fifth element, that
element below 256), every nil / non-nil choice of the out-parameters and every previous content of the caller's variables.

On the one live shape `[a, …]` the slice `m[3:]` and its length are handed to the evaluation as equations proved by `rfl`:
`List.length` / `Int.toNat` arithmetic inside `simp` is what makes the obvious proof slow.
-/
open Midi Midi.Go Midi.Msg

namespace Midi.C15

/-- `smf.Message.Is(t)` for a meta type constant `t` (every code from 70 up) is the model's `isType` -/
theorem code_smf_Is (m : Bytes) (t : Nat) (ht : 70 ≤ t) : smf.Message.Is m (t : Int) = pure (Meta.isType t m) := by
  obtain ⟨b, h1, h2⟩ := Midi.C08.code_smf_Is m t
  rw [msgIs_smf_meta t ht m] at h1
  rw [h2, Option.some.inj h1]
  rfl

def sel {α : Type} (isNil : Bool) (old new : α) : α := if isNil then old else new

theorem wrapS8_eq (x : Int) : Go.wrapS 8 x = Meta.wrapInt8 x := by
  simp only [Go.wrapS, Meta.wrapInt8, Meta.toInt8]
  omega

/-- `utils.ParseUint16(b1, b2)`: big-endian (`b1` may be any number, its low byte counts) -/
theorem code_ParseUint16 (a b : Nat) (hb : b < 256) : utils.ParseUint16 a b = (a % 256 * 256 + b % 256) % 65536 := by
  have h := Nat.shiftLeft_add_eq_or_of_lt (i := 8) (b := b) hb (a % 256)
  simp only [Nat.shiftLeft_eq, Nat.reducePow] at h
  simp only [utils.ParseUint16, Id.run, Nat.shiftLeft_eq, Nat.reducePow, Nat.pow_zero, Nat.mul_one, Nat.zero_or]
  rw [Nat.or_comm, show a * 256 % 65536 = a % 256 * 256 by omega, show b % 65536 = b by omega, ← h]
  show a % 256 * 256 + b = _
  omega

/-- the translated loop (`int` arithmetic, far from 2^63) is the model's `clampOctave` -/
theorem iter_clampOctave : ∀ (n : Nat) (t : Int), -9223372036854775808 ≤ t → t < 9223372036854775796 →
    Go.iter (fun t : Int => t < 0) (fun t => Go.wrapS 64 (t + 12)) n t = Meta.clampOctave n t
  | 0, t, _, _ => rfl
  | n + 1, t, h1, h2 => by
    unfold Go.iter Meta.clampOctave
    split
    · rw [Go.wrapS64_of_range _ (by omega) (by omega)]
      exact iter_clampOctave n (t + 12) (by omega) (by omega)
    · rfl

/-- from any start value an `int8` product (minus 3) can have, the loop stops within 11 of its 1024 rounds -/
theorem clamp_loop (t : Int) (h1 : -132 ≤ t) (h2 : t ≤ 127) :
    forIn [:Go.loopFuel] t (fun _ (s : Int) =>
        if ¬ s < 0 then (pure (ForInStep.done s) : Except String (ForInStep Int))
        else pure (ForInStep.yield (Go.wrapS 64 (s + 12))))
      = pure (Meta.clampOctave 11 t) := by
  have e := iter_clampOctave 11 t (by omega) (by omega)
  rw [Go.forIn_range_while (fun s : Int => s < 0) (fun s => Go.wrapS 64 (s + 12)),
    Go.iter_of_stop _ _ (k := 11) (by decide) (e ▸ Int.not_lt.2 (Meta.clampOctave_nonneg 11 t (by omega))), e]

theorem code_KeyFromSharpsOrFlats (sf : Int) (mode : Nat) :
    utils.KeyFromSharpsOrFlats sf mode = pure (Meta.keyFromSharpsOrFlats sf mode) := by
  have hr := Meta.wrapInt8_range (sf * 7)
  unfold utils.KeyFromSharpsOrFlats Meta.keyFromSharpsOrFlats
  rw [wrapS8_eq]
  by_cases hm : mode = 1
  · have h0 := Meta.clampOctave_nonneg 11 (Meta.wrapInt8 (sf * 7) - 3) (by omega)
    simp only [hm, if_true, Go.wrapS64_of_range (Meta.wrapInt8 (sf * 7) - 3) (by omega) (by omega),
      clamp_loop _ (by omega) (by omega : Meta.wrapInt8 (sf * 7) - 3 ≤ 127), pure_bind, Int.not_lt.2 h0, if_false]
    rfl
  · have h0 := Meta.clampOctave_nonneg 11 (Meta.wrapInt8 (sf * 7)) (by omega)
    simp only [hm, if_false, clamp_loop _ (by omega : -132 ≤ Meta.wrapInt8 (sf * 7)) hr.2, pure_bind, Int.not_lt.2 h0]
    rfl

/-- as `C07.guard_len_of` (`Props/C07_Get.lean`), for `smf.Message.Is` and an `Option` model -/
@[elab_as_elim]
theorem guard_len_of {α β : Type} {P : Option α → Except String β → Prop} (t : Nat) (ht : 70 ≤ t) (L : Nat) {m : Bytes}
    {body : Option α} {F : β} {rest : Except String β} (r : Option α) (c : Except String β)
    (hr : r = if !Meta.isType t m then none else if m.length ≠ L then none else body)
    (hc : c = smf.Message.Is m t >>= fun is =>
      if ¬ is = true then pure F else if (m.length : Int) ≠ L then pure F else rest)
    (no : P none (pure F)) (live : m.length = L → P body rest) : P r c := by
  rw [hr, hc, Go.bind_eq_of_pure (code_smf_Is m t ht)]
  cases Meta.isType t m
  · exact no
  · by_cases hl : m.length = L
    · have hl' : ¬ (m.length : Int) ≠ L := not_not_intro (congrArg Nat.cast hl)
      rw [Bool.not_true, if_neg Bool.false_ne_true, if_neg (not_not_intro hl), if_neg (not_not_intro rfl), if_neg hl']
      exact live hl
    · have hl' : (m.length : Int) ≠ L := fun h => hl (Int.natCast_inj.1 h)
      rw [Bool.not_true, if_neg Bool.false_ne_true, if_pos hl, if_neg (not_not_intro rfl), if_pos hl']
      exact no

theorem code_GetMetaChannel (m : Bytes) (cn : Bool) (c0 : Nat) :
    smf.Message.GetMetaChannel m cn c0 =
      .ok (match Meta.getMetaChannel m with | none => (false, c0) | some c => (true, sel cn c0 c)) := by
  refine guard_len_of 70 (by decide) 4 (Meta.getMetaChannel m) (smf.Message.GetMetaChannel m cn c0)
    (by rfl) (by rfl) rfl fun hl => ?_
  match m, hl with
  | [a, b, c, d], _ =>
    have hs : smf.Message.metaDataWithoutVarlength [a, b, c, d] = pure [d] := rfl
    simp only [go_eval, ↓Go.bind_eq_of_pure hs]
    cases cn <;> rfl

theorem code_GetMetaPort (m : Bytes) (pn : Bool) (p0 : Nat) :
    smf.Message.GetMetaPort m pn p0 =
      .ok (match Meta.getMetaPort m with | none => (false, p0) | some p => (true, sel pn p0 p)) := by
  refine guard_len_of 80 (by decide) 4 (Meta.getMetaPort m) (smf.Message.GetMetaPort m pn p0)
    (by rfl) (by rfl) rfl fun hl => ?_
  match m, hl with
  | [a, b, c, d], _ =>
    have hs : smf.Message.metaDataWithoutVarlength [a, b, c, d] = pure [d] := rfl
    simp only [go_eval, ↓Go.bind_eq_of_pure hs]
    cases pn <;> rfl

theorem code_GetMetaSMPTE (m : Bytes) (n1 n2 n3 n4 n5 : Bool) (x1 x2 x3 x4 x5 : Nat) :
    smf.Message.GetMetaSMPTEOffsetMsg m n1 x1 n2 x2 n3 x3 n4 x4 n5 x5 =
      .ok (match Meta.getMetaSMPTE m with
           | none => (false, x1, x2, x3, x4, x5)
           | some (a, b, c, d, e) => (true, sel n1 x1 a, sel n2 x2 b, sel n3 x3 c, sel n4 x4 d, sel n5 x5 e)) := by
  refine guard_len_of 86 (by decide) 8 (Meta.getMetaSMPTE m)
    (smf.Message.GetMetaSMPTEOffsetMsg m n1 x1 n2 x2 n3 x3 n4 x4 n5 x5) (by rfl) (by rfl) rfl fun hl => ?_
  match m, hl with
  | [a, b, c, d, e, f, g, i], _ =>
    have hs : smf.Message.metaDataWithoutVarlength [a, b, c, d, e, f, g, i] = pure [d, e, f, g, i] := rfl
    have hlen : (([d, e, f, g, i].length : Nat) : Int) = 5 := rfl
    simp only [go_eval, ↓reduceIte, ↓Go.bind_eq_of_pure hs, hlen]
    cases n1 <;> cases n2 <;> cases n3 <;> cases n4 <;> cases n5 <;> rfl

/-- only the denominator exponent `m[4]` goes through `bin2decDenom` (a `uint8` shift) -/
theorem code_GetMetaTimeSig (m : Bytes) (hb : ∀ e, m[4]? = some e → e < 256) (n1 n2 n3 n4 : Bool) (x1 x2 x3 x4 : Nat) :
    smf.Message.GetMetaTimeSig m n1 x1 n2 x2 n3 x3 n4 x4 =
      .ok (match Meta.getMetaTimeSig m with
           | none => (false, x1, x2, x3, x4)
           | some (a, b, c, d) => (true, sel n1 x1 a, sel n2 x2 b, sel n3 x3 c, sel n4 x4 d)) := by
  refine guard_len_of 84 (by decide) 7 (Meta.getMetaTimeSig m) (smf.Message.GetMetaTimeSig m n1 x1 n2 x2 n3 x3 n4 x4)
    (by rfl) (by rfl) rfl fun hl => ?_
  match m, hl, hb with
  | [a, b, c, d, e, f, g], _, hb =>
    have hd : smf.bin2decDenom e = Meta.bin2decDenom e := code_bin2decDenom e (hb e rfl)
    have hs : smf.Message.metaDataWithoutVarlength [a, b, c, d, e, f, g] = pure [d, e, f, g] := rfl
    have hlen : (([d, e, f, g].length : Nat) : Int) = 4 := rfl
    simp only [go_eval, ↓reduceIte, ↓Go.bind_eq_of_pure hs, hd, hlen]
    cases n1 <;> cases n2 <;> cases n3 <;> cases n4 <;> rfl

theorem code_GetMetaMeter (m : Bytes) (hb : ∀ e, m[4]? = some e → e < 256) (n1 n2 : Bool) (x1 x2 : Nat) :
    smf.Message.GetMetaMeter m n1 x1 n2 x2 =
      .ok (match Meta.getMetaMeter m with
           | none => (false, x1, x2)
           | some (a, b) => (true, sel n1 x1 a, sel n2 x2 b)) := by
  unfold smf.Message.GetMetaMeter Meta.getMetaMeter
  simp only [code_GetMetaTimeSig m hb]
  cases Meta.getMetaTimeSig m with
  | none => rfl
  | some t => obtain ⟨a, b, c, d⟩ := t; rfl

/-- only the low byte `m[4]` has to be a byte: `ParseUint16` ors it in unmasked -/
theorem code_GetMetaSeqNumber (m : Bytes) (hb : ∀ e, m[4]? = some e → e < 256) (sn : Bool) (s0 : Nat) :
    smf.Message.GetMetaSeqNumber m sn s0 =
      .ok (match Meta.getMetaSeqNumber m with | none => (false, s0) | some v => (true, sel sn s0 v)) := by
  have hI : smf.Message.Is m (81 : Int) = pure (Meta.isType 81 m) := code_smf_Is m 81 (by decide)
  unfold smf.Message.GetMetaSeqNumber Meta.getMetaSeqNumber
  cases hT : Meta.isType 81 m
  · simp only [go_eval, ↓reduceIte, ↓Go.bind_eq_of_pure hI, hT]
    rfl
  · by_cases h2 : m.length = 2
    · -- `FF 00`: the sequence number defaults to 0
      simp only [go_eval, ↓reduceIte, ↓Go.bind_eq_of_pure hI, hT, h2, false_and]
      cases sn <;> rfl
    · by_cases h5 : m.length < 5
      · have h2' : ¬ (m.length : Int) = 2 := by omega
        have h5' : (m.length : Int) < 5 := by omega
        simp only [go_eval, ↓reduceIte, ↓Go.bind_eq_of_pure hI, hT, h2, h2', h5, h5', and_self]
        rfl
      · -- five bytes or more: `ParseUint16(m[3], m[4])`
        match m, h2, h5, hb with
        | a :: b :: c :: d :: e :: r, h2, h5, hb =>
          have hu := code_ParseUint16 d e (hb e rfl)
          have h2' : ¬ (((a :: b :: c :: d :: e :: r).length : Nat) : Int) = 2 := by omega
          have h5' : ¬ (((a :: b :: c :: d :: e :: r).length : Nat) : Int) < 5 := by omega
          simp only [go_eval, ↓reduceIte, ↓Go.bind_eq_of_pure hI, hT, hu, h2, h2', h5, h5', and_false,
            List.drop_succ_cons, List.drop_zero]
          cases sn <;> rfl
        | [], _, h5, _ => exact absurd (by simp) h5
        | [_], _, h5, _ => exact absurd (by simp) h5
        | [_, _], _, h5, _ => exact absurd (by simp) h5
        | [_, _, _], _, h5, _ => exact absurd (by simp) h5
        | [_, _, _, _], _, h5, _ => exact absurd (by simp) h5

theorem code_GetMetaKeySig (m : Bytes) (n1 n2 n3 n4 : Bool) (k0 u0 : Nat) (j0 f0 : Bool) :
    smf.Message.GetMetaKeySig m n1 k0 n2 u0 n3 j0 n4 f0 =
      .ok (match Meta.getMetaKeySig m with
           | none => (false, k0, u0, j0, f0)
           | some k => (true, sel n1 k0 k.key, sel n2 u0 k.num, sel n3 j0 k.isMajor, sel n4 f0 k.isFlat)) := by
  refine guard_len_of 76 (by decide) 5 (Meta.getMetaKeySig m) (smf.Message.GetMetaKeySig m n1 k0 n2 u0 n3 j0 n4 f0)
    (by rfl) (by rfl) rfl fun hl => ?_
  match m, hl with
  | [a, b, c, d, e], _ =>
    have hs : smf.Message.metaDataWithoutVarlength [a, b, c, d, e] = pure [d, e] := rfl
    have hlen : (([d, e].length : Nat) : Int) = 2 := rfl
    have hk (f : Nat → Except String (Bool × Nat × Nat × Bool × Bool)) :
        utils.KeyFromSharpsOrFlats (Meta.toInt8 d) e >>= f = f (Meta.keyFromSharpsOrFlats (Meta.toInt8 d) e) :=
      Go.bind_eq_of_pure (code_KeyFromSharpsOrFlats _ _) f
    -- the one data-dependent branch of the Go text: `if _num < 0 { _num = _num * -1 }`
    by_cases hlt : Meta.toInt8 d < 0 <;>
      simp only [go_eval, ↓reduceIte, ↓Go.bind_eq_of_pure hs, hlen, hlt, wrapS8_eq, Meta.wrapInt8_natCast, Go.toU, Int.reducePow, hk,
        Bool.beq_eq_decide_eq, decide_true, decide_false, List.drop_succ_cons, List.drop_zero] <;>
      cases n1 <;> cases n2 <;> cases n3 <;> cases n4 <;> rfl

end Midi.C15
