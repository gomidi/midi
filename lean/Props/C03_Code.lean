import MidiModel.Vlq
import MidiModel.Generated.UtilsGo
import Proofs.GoSem
import Proofs.GoLoops
import Proofs.Vlq
/-!
# C03 (and C01, C15), tie to the source: `utils.VlqEncode` as translated from `internal/utils/utils.go` is the model's
`Vlq.encode`, for every `uint32` argument — the quotient loop (a translated general `for` loop, at most `Go.loopFuel`
iterations; five suffice) and the in-place `reverse` (two-index swap loop writing into its parameter).
-/
namespace Midi.C03
open Midi Midi.Go

/-- `byte(quo) | 0x80` is the low seven bits plus 128 -/
theorem digit_fin : ∀ x : Fin 256, (x.val ||| 128) = x.val % 128 + 128 := by decide +kernel
theorem digit (q : Nat) : (q % 256 ||| 128) = q % 128 + 128 := by
  have := digit_fin ⟨q % 256, Nat.mod_lt _ (by decide)⟩
  simp only at this
  rw [this]; omega

abbrev qCond : List Nat × Nat → Prop := fun s => s.2 > 0
abbrev qStep (s : List Nat × Nat) : List Nat × Nat := (s.1 ++ [s.2 % 256 ||| 128], s.2 / 128)

theorem q_loop : ∀ (f : Nat) (acc : List Nat) (q : Nat), q < 128 ^ f →
    Go.iter qCond qStep f (acc, q) = (acc ++ Vlq.tailLE f q, 0) := by
  intro f
  induction f with
  | zero =>
    intro acc q h
    have : q = 0 := by simpa using h
    subst this; simp [Go.iter, Vlq.tailLE]
  | succ f ih =>
    intro acc q h
    by_cases hq : q = 0
    · subst hq; simp [Go.iter, Vlq.tailLE, qCond]
    · have hpos : q > 0 := Nat.pos_of_ne_zero hq
      simp only [Go.iter, qCond, hpos, if_true, qStep, Vlq.tailLE, hq, if_false]
      rw [ih _ _ (Vlq.div_lt_pow128 h), digit]
      simp

def revStep (s : List Nat × Int × Int) : Except String (List Nat × Int × Int) := do
  let x ← Go.idx s.1 s.2.2
  let y ← Go.idx s.1 s.2.1
  let b ← Go.setIdx s.1 s.2.1 x
  let b ← Go.setIdx b s.2.2 y
  pure (b, Go.wrapS 64 (s.2.1 + 1), Go.wrapS 64 (s.2.2 - 1))

abbrev rCond : List Nat × Int × Int → Prop := fun s => s.2.1 < s.2.2

theorem reverse_eq (l : List Nat) : utils.reverse l = (do
    let s ← Go.iterM rCond revStep Go.loopFuel (l, 0, Go.wrapS 64 ((l.length : Int) - 1))
    if rCond s then throw "go2lean: loop fuel exhausted" else pure s.1) := by
  unfold utils.reverse
  rw [← Go.forIn_range_whileM]
  simp only []
  congr 1
  · congr 1
    funext _ st
    split
    · rfl
    · simp only [revStep, map_eq_pure_bind, bind_assoc, pure_bind]

/-- one swap: the two ends of the part not yet reversed change places -/
theorem revStep_ends (pre mid post : List Nat) (x y : Nat) (h : (pre ++ x :: (mid ++ y :: post)).length < 2 ^ 62) :
    revStep (pre ++ x :: (mid ++ y :: post), (pre.length : Nat), ((pre ++ x :: mid).length : Nat)) =
      .ok (pre ++ y :: (mid ++ x :: post), ((pre.length + 1 : Nat) : Int), ((pre ++ x :: mid).length : Nat) - 1) := by
  -- the same list, bracketed around its left and around its right end
  have e : ∀ a b, pre ++ a :: (mid ++ b :: post) = (pre ++ a :: mid) ++ b :: post := by simp
  have hl : ∀ a, (pre ++ a :: mid).length = (pre ++ x :: mid).length := by simp
  have hi : (pre ++ x :: (mid ++ y :: post))[pre.length]? = some x := by simp
  have hj : (pre ++ x :: (mid ++ y :: post))[(pre ++ x :: mid).length]? = some y := by
    rw [e]
    simp
  have si : (pre ++ x :: (mid ++ y :: post)).set pre.length y = pre ++ y :: (mid ++ y :: post) := by simp
  have sj : ((pre ++ y :: mid) ++ y :: post).set (pre ++ y :: mid).length x = (pre ++ y :: mid) ++ x :: post := by simp
  have w1 := Go.wrapS64_succ pre.length (by simp at h; omega)
  have w2 : Go.wrapS 64 (((pre ++ x :: mid).length : Nat) - 1) = ((pre ++ x :: mid).length : Nat) - 1 := by
    apply Go.wrapS64_of_range <;> simp at h ⊢ <;> omega
  simp only [revStep, Go.idx_some hi, Go.idx_some hj, pure_bind, w1, w2]
  rw [Go.setIdx_nat y (by simp), Go.ok_bind, si, e, ← hl y, Go.setIdx_nat x (by simp), Go.ok_bind, sj, ← e]
  rfl

theorem ends_induction {α : Type} {motive : List α → Prop} (nil : motive []) (single : ∀ x, motive [x])
    (ends : ∀ x mid y, motive mid → motive (x :: (mid ++ [y]))) (l : List α) : motive l := by
  induction h : l.length using Nat.strongRecOn generalizing l with
  | _ n ih =>
    match l with
    | [] => exact nil
    | [x] => exact single x
    | x :: z :: t =>
      obtain ⟨m, y, e⟩ := (List.eq_nil_or_concat (z :: t)).resolve_left (List.cons_ne_nil z t)
      rw [e, List.concat_eq_append] at h ⊢
      exact ends x m y (ih m.length (by simp at h; omega) m rfl)

/-- the swap loop reverses the part between the two indices and stops; half as many swaps as elements suffice -/
theorem rev_loop (mid : List Nat) : ∀ (f : Nat) (pre post : List Nat), mid.length / 2 ≤ f →
    (pre ++ (mid ++ post)).length < 2 ^ 62 →
    ∃ i j : Int, ¬ i < j ∧
      Go.iterM rCond revStep f (pre ++ (mid ++ post), (pre.length : Nat), ((pre ++ mid).length : Nat) - 1) =
        .ok (pre ++ (mid.reverse ++ post), i, j) := by
  induction mid using ends_induction with
  | nil =>
    intro f pre post _ _
    refine ⟨_, _, ?_, Go.iterM_stop _ _ _ _ ?_⟩
    · simp only [List.append_nil]
      omega
    · simp only [rCond, List.append_nil]
      omega
  | single x =>
    intro f pre post _ _
    refine ⟨_, _, ?_, Go.iterM_stop _ _ _ _ ?_⟩
    · simp only [List.length_append, List.length_singleton]
      omega
    · simp [rCond]
  | ends x mid y ih =>
    intro f pre post hf hl
    obtain ⟨f, rfl⟩ : ∃ g, f = g + 1 := ⟨f - 1, by simp at hf; omega⟩
    have e : pre ++ (x :: (mid ++ [y]) ++ post) = pre ++ x :: (mid ++ y :: post) := by simp
    have hc : rCond (pre ++ x :: (mid ++ y :: post), (pre.length : Nat), ((pre ++ x :: (mid ++ [y])).length : Nat) - 1) := by
      simp [rCond]
      omega
    have hj : (((pre ++ x :: (mid ++ [y])).length : Nat) : Int) - 1 = ((pre ++ x :: mid).length : Nat) := by
      simp
      omega
    rw [e] at hl
    obtain ⟨i, j, hij, h⟩ := ih f (pre ++ [y]) (x :: post) (by simp at hf; omega) (by simpa using hl)
    refine ⟨i, j, hij, ?_⟩
    rw [e, Go.iterM, if_pos hc, hj, revStep_ends pre mid post x y hl]
    -- the state after the swap is the state of the induction hypothesis, written with `pre ++ [y]` and `x :: post`
    have e1 : pre ++ [y] ++ (mid ++ x :: post) = pre ++ y :: (mid ++ x :: post) := by simp
    have e2 : ((pre ++ [y] ++ mid).length : Int) - 1 = ((pre ++ x :: mid).length : Nat) - 1 := by simp
    have e3 : ((pre ++ [y]).length : Int) = ((pre.length + 1 : Nat) : Int) := by simp
    have e4 : pre ++ [y] ++ (mid.reverse ++ x :: post) = pre ++ ((x :: (mid ++ [y])).reverse ++ post) := by simp
    rw [e1, e2, e3, e4] at h
    exact h

/-- **`utils.reverse` reverses** every slice its swap loop gets through within the fuel -/
theorem code_reverse (l : List Nat) (h : l.length ≤ 2 * Go.loopFuel) : utils.reverse l = .ok l.reverse := by
  have hl : l.length < 2 ^ 62 := Nat.lt_of_le_of_lt h (by decide)
  obtain ⟨i, j, hij, hr⟩ := rev_loop l Go.loopFuel [] [] (by omega) (by simpa using hl)
  simp only [List.nil_append, List.append_nil, List.length_nil, Int.natCast_zero] at hr
  rw [reverse_eq, Go.wrapS64_of_range _ (by omega) (by omega), hr, Go.ok_bind, if_neg hij]
  rfl

/-- **`utils.VlqEncode` as it stands in the source is the model's encoder**, for every `uint32` argument: no panic,
    the loop ends within its fuel, and the bytes are `Vlq.encode n`. -/
theorem code_VlqEncode (n : Nat) (h : n < 4294967296) : utils.VlqEncode n = .ok (Vlq.encode n) := by
  unfold utils.VlqEncode
  simp only []
  have hq : n / 128 < 128 ^ 5 := Vlq.div_lt_pow128 (by omega)
  rw [Go.forIn_range_while qCond qStep]
  have hstop : ¬ qCond (Go.iter qCond qStep 5 ([] ++ [n % 128 % 256], n / 128)) := by
    rw [q_loop 5 _ _ hq]; simp [qCond]
  rw [Go.iter_of_stop qCond qStep (k := 5) (by decide) hstop, q_loop 5 _ _ hq]
  have hlen : ([] ++ [n % 128 % 256] ++ Vlq.tailLE 5 (n / 128)).length ≤ 2 * Go.loopFuel := by
    have := Vlq.tailLE_length_le_fuel 5 (n / 128)
    simp only [List.nil_append, List.singleton_append, List.length_cons, Go.loopFuel]
    omega
  simp only [pure_bind, gt_iff_lt, Nat.lt_irrefl, if_false]
  rw [code_reverse _ hlen]
  have : n % 128 % 256 = n % 128 := by omega
  simp [Vlq.encode, this]

end Midi.C03
