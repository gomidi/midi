import Proofs.StreamRun
import Proofs.SmfLoop
/-! The reader program of `SmfStream.lean`, interpreted over in-memory bytes, is the in-memory reader of `Smf.lean`. -/
namespace Midi.Stream
open Midi.Smf

/-- the in-memory reader's error classes among those of the programs, which have `io` besides -/
def cv : RErr → Err
  | .eof => .eof | .ueof => .ueof | .missing => .missing | .finished => .finished | .other => .other | .fuel => .fuel

def cvRes : RRes → Res
  | .ok f => .ok f
  | .error e => .error (cv e)

/-- result of a program on `listOps` vs. result of the corresponding `Smf` function -/
def Agree {α β : Type} (r : Except Err α × Bytes) (x : Except RErr (β × Bytes)) (f : β → α) : Prop :=
  match x with
  | .ok (b, rest) => r = (.ok (f b), rest)
  | .error e => r.1 = .error (cv e)

theorem agree_bind {α β γ δ : Type} (p : Prog α) (k : α → Prog γ) (l : Bytes)
    (x : Except RErr (β × Bytes)) (f : β → α) (y : β → Bytes → Except RErr (δ × Bytes)) (g : δ → γ)
    (hp : Agree (run listOps p l) x f)
    (hk : ∀ b rest, x = .ok (b, rest) → Agree (run listOps (k (f b)) rest) (y b rest) g) :
    Agree (run listOps (p.bind k) l) (match x with | .ok (b, rest) => y b rest | .error e => .error e) g := by
  rw [run_bind]
  cases x with
  | error e =>
    simp only [Agree] at hp ⊢
    have : run listOps p l = (.error (cv e), (run listOps p l).2) := by rw [← hp]
    rw [this]
  | ok br =>
    obtain ⟨b, rest⟩ := br
    simp only [Agree] at hp
    rw [hp]
    exact hk b rest rfl

/-- `agree_bind` in the shape both `do` blocks unfold to -/
theorem agree_seq {α β γ δ : Type} {p : Prog α} {k : α → Prog γ} {l : Bytes} {x : Except RErr (β × Bytes)} {f : β → α}
    {k' : β × Bytes → Except RErr (δ × Bytes)} {g : δ → γ} (hp : Agree (run listOps p l) x f)
    (hk : ∀ b rest, x = .ok (b, rest) → Agree (run listOps (k (f b)) rest) (k' (b, rest)) g) :
    Agree (run listOps (p >>= k) l) (x >>= k') g := by
  have := agree_bind p k l x f (fun b rest => k' (b, rest)) g hp hk
  cases x <;> exact this

theorem agree_readN (n : Nat) (l : Bytes) : Agree (run listOps (readN n) l) (Smf.readN n l) id := by
  rw [Smf.readN_eq]
  simp only [Stream.readN, run, listOps_readFull]
  by_cases hl : l.length < n
  · simp only [hl, if_true, Agree, run]
    split <;> rfl
  · simp [hl, Agree, run]

theorem agree_readByte (l : Bytes) : Agree (run listOps readByte l) (Smf.readByte l) id := by
  unfold Agree
  cases l with
  | nil => simp [Stream.readByte, Smf.readByte, run, listOps, cv]
  | cons b r => simp [Stream.readByte, Smf.readByte, run, listOps]

/-- any fuel that covers the input reads like the fuel of `Vlq.read` -/
theorem run_readVlq (l : Bytes) : ∀ fuel acc, l.length < fuel →
    run listOps (readVlq fuel acc) l =
      (match Vlq.readAux (l.length + 1) acc l with
       | some (v, r) => (.ok v, r)
       | none => (.error .ueof, [])) := by
  induction l with
  | nil =>
    intro fuel acc h
    obtain ⟨f, rfl⟩ : ∃ f, fuel = f + 1 := ⟨fuel - 1, by simp at h; omega⟩
    simp [readVlq, run, listOps, Vlq.readAux]
  | cons b r ih =>
    intro fuel acc h
    obtain ⟨f, rfl⟩ : ∃ f, fuel = f + 1 := ⟨fuel - 1, by simp at h; omega⟩
    simp only [readVlq, run, listOps, List.length_cons, Vlq.readAux]
    split
    · simp [run]
    · exact ih f _ (by simp at h; omega)

theorem agree_readVlq (l : Bytes) (fuel : Nat) (h : l.length < fuel) :
    Agree (run listOps (readVlq fuel 0) l) (Smf.readVlq l) id := by
  unfold Agree Smf.readVlq Vlq.read
  rw [run_readVlq l fuel 0 h]
  cases Vlq.readAux (l.length + 1) 0 l with
  | none => simp [cv]
  | some x => obtain ⟨v, r⟩ := x; simp

theorem readVlq_len (l : Bytes) (v : Nat) (r : Bytes) (h : Smf.readVlq l = .ok (v, r)) : r.length < l.length :=
  (readVlq_framed l).rest_lt (fun y hy => by cases hy) h

def evT (x : Nat × Msg × Nat) : Ev := ⟨x.1, x.2.1, x.2.2⟩

theorem agree_finishChan (δ st a1 : Nat) (l : Bytes) :
    Agree (run listOps (Stream.finishChan δ st a1) l) (finishChanP δ st a1 l) evT := by
  unfold Stream.finishChan finishChanP Smf.finishChan
  by_cases h : st / 16 = 0xC ∨ st / 16 = 0xD
  · simp [h, Agree, run, evT]
  · cases l with
    | nil => simp [h, Agree, run, listOps, evT]
    | cons a2 r => simp [h, Agree, run, listOps, evT]

theorem agree_readEvP (vf rr : Nat) (l : Bytes) (h : l.length < vf) :
    Agree (run listOps (Stream.readEvent vf rr) l) (readEvP rr l) evT := by
  unfold Stream.readEvent readEvP
  refine agree_seq (agree_readVlq l vf h) fun δ l1 h1 => ?_
  dsimp only [id]
  have := (readVlq_framed l).rest_le h1
  refine agree_seq (agree_readByte l1) fun c l2 h2 => ?_
  dsimp only [id]
  have := (readByte_framed l1).rest_le h2
  by_cases hFF : c = 0xFF
  · simp only [hFF, if_true]
    refine agree_seq (agree_readByte l2) fun t l3 h3 => ?_
    dsimp only [id]
    have := (readByte_framed l2).rest_le h3
    refine agree_seq (agree_readVlq l3 vf (by omega)) fun n l4 h4 => ?_
    dsimp only [id]
    refine agree_seq (agree_readN n l4) fun d l5 h5 => ?_
    dsimp only [id]
    rfl
  · by_cases hF0 : c = 0xF0 ∨ c = 0xF7
    · simp only [hFF, hF0, if_true, if_false]
      refine agree_seq (agree_readVlq l2 vf (by omega)) fun n l4 h4 => ?_
      dsimp only [id]
      refine agree_seq (agree_readN n l4) fun d l5 h5 => ?_
      dsimp only [id]
      rfl
    · by_cases hc : isChanStatus c = true
      · simp only [hFF, hF0, hc, if_true, if_false]
        refine agree_seq (agree_readByte l2) fun a1 l3 h3 => ?_
        dsimp only [id]
        exact agree_finishChan _ _ _ _
      · by_cases h0 : rr = 0
        · simp only [hFF, hF0, hc, h0, if_true, if_false]
          rfl
        · simp only [hFF, hF0, hc, h0, if_false]
          exact agree_finishChan _ _ _ _

theorem agree_chunkLoop (k : Nat) : ∀ (vf f2 : Nat) (l : Bytes), l.length < vf → l.length < f2 →
    Agree (run listOps (Stream.chunkLoop vf k) l) (Smf.chunkLoop f2 k l) id := by
  intro vf
  induction vf with
  | zero => intro f2 l h; omega
  | succ v ih =>
    intro f2 l h1 h2
    obtain ⟨f, rfl⟩ : ∃ f, f2 = f + 1 := ⟨f2 - 1, by omega⟩
    unfold Stream.chunkLoop Smf.chunkLoop
    refine agree_seq (agree_readN 4 l) fun typ l1 e1 => ?_
    dsimp +instances only [id]
    have := (readN_framed 4 l).rest_lt (fun y hy => by cases hy) e1
    refine agree_seq (agree_readN 4 l1) fun len4 l2 e2 => ?_
    dsimp +instances only [id]
    have := (readN_framed 4 l1).rest_le e2
    by_cases hm : typ = MTrk
    · simp only [hm, if_true]; rfl
    · simp only [hm, if_false, run, listOps]
      by_cases hl : l2.length < lenOf4 len4
      · simp [hl, run, Agree, cv]
      · simp only [hl, if_false]
        exact ih f _ (by simp only [List.length_drop]; omega) (by simp only [List.length_drop]; omega)

def cvLoop (r : RState × RErr) : LoopRes := (r.1, cv r.2)

theorem cv_endErr (e : RErr) (s : RState) :
    cv (endErr e s) = (if cv e = .eof ∧ s.missing = true then .missing else cv e) := by
  unfold endErr
  cases e <;> by_cases hm : s.missing = true <;> simp [hm, cv]

theorem run_catch_agree {α β γ : Type} {p : Prog α} {l : Bytes} {x : Except RErr (β × Bytes)} {f : β → α}
    (hp : Agree (run listOps p l) x f) (g : Except Err α → Prog γ) :
    (run listOps (p.catch g) l).1 = match (generalizing := false) x with
      | .ok (b, rest) => (run listOps (g (.ok (f b))) rest).1
      | .error e => (run listOps (g (.error (cv e))) (run listOps p l).2).1 := by
  rw [run_catch]
  cases x with
  | error e => rw [show (run listOps p l).1 = .error (cv e) from hp]
  | ok a => rw [show run listOps p l = (.ok (f a.1), a.2) from hp]

theorem run_readLoop : ∀ (lf f2 vf : Nat) (st : RState) (l : Bytes), l.length < lf → l.length < f2 → l.length < vf →
    (run listOps (Stream.readLoop lf vf st) l).1 = .ok (cvLoop (Smf.readLoop f2 st l)) := by
  intro lf
  induction lf with
  | zero => intro f2 vf st l h; omega
  | succ lf ih =>
    intro f2 vf st l h1 h2 h3
    obtain ⟨f, rfl⟩ : ∃ f, f2 = f + 1 := ⟨f2 - 1, by omega⟩
    rw [readLoop_succ]
    unfold Stream.readLoop step
    by_cases hd : st.done = true
    · simp [hd, run, cvLoop, cv]
    · have hd' : st.done = false := by simpa using hd
      simp only [hd', Bool.false_eq_true, if_false]
      refine (run_catch_agree (x := chunkPart st l) (f := id) ?_ _).trans ?_
      · unfold chunkPart
        by_cases hx : st.expectChunk = true
        · simp only [hx, if_true]; exact agree_chunkLoop st.started vf _ l h3 (by omega)
        · simp only [hx, Bool.false_eq_true, if_false]; rfl
      cases hc : chunkPart st l with
      | error e => simp only [afterChunk, run, cvLoop, cv_endErr]
      | ok a =>
        obtain ⟨k, l1⟩ := a
        obtain ⟨u, rfl, _⟩ := chunkPart_ok _ _ _ _ hc
        simp only [afterChunk, id]
        rw [run_catch_agree (agree_readEvP vf st.rs l1 (by simp only [List.length_append] at h3; omega)), readEvent_eq]
        cases hq : readEvP st.rs l1 with
        | error e => simp only [Except.map, afterEvent, run, cvLoop, cv_endErr, hd']
        | ok b =>
          obtain ⟨x, l2⟩ := b
          have := (readEvP_framed st.rs l1).rest_lt (fun y hy => by cases hy) hq
          simp only [Except.map, mkREv, afterEvent, evT]
          by_cases ht : st.tracks.length ≤ k - 1
          · simp [ht, run, cvLoop, cv, store]
          · simp only [ht, if_false]
            simp only [List.length_append] at h1 h2 h3
            exact ih f vf _ l2 (by omega) (by omega) (by omega)

/-- the end of `Stream.readFrom`, what it makes of the loop's result `cvLoop r`, is `finish` -/
theorem run_finish (format : Nat) (tf : TimeFormat) (r : RState × RErr) (l : Bytes) :
    (run listOps (if r.1.missing then Prog.pure (.error .missing)
        else if cv r.2 = .finished ∨ cv r.2 = .eof then .pure (.ok ⟨format, tf, r.1.tracks⟩)
        else .pure (.error (cv r.2))) l).1 = .ok (cvRes (finish format tf r)) := by
  obtain ⟨st, e⟩ := r
  simp only [finish]
  by_cases hmiss : st.missing = true
  · simp [hmiss, run, cvRes, cv]
  · simp only [hmiss, Bool.false_eq_true, if_false]
    cases e <;> simp [cv, run, cvRes]

theorem readFrom_eq (bs : Bytes) (fuel : Nat) (hf : bs.length + 2 ≤ fuel) :
    (run listOps (Stream.readFrom fuel) bs).1 = .ok (cvRes (Smf.readFrom bs)) := by
  rw [readFrom_header]
  unfold Stream.readFrom
  refine (run_catch_agree (x := readHeader bs) (f := id) ?_ _).trans ?_
  · unfold readHeader
    refine agree_seq (agree_readN 4 bs) fun typ bs1 _ => ?_
    dsimp +instances only [id]
    refine agree_seq (agree_readN 4 bs1) fun _ bs2 _ => ?_
    dsimp +instances only [id]
    by_cases hm : typ ≠ MThd
    · simp only [if_pos hm]; rfl
    · simp only [if_neg hm]
      refine agree_seq (agree_readN 2 bs2) fun fm bs3 _ => ?_
      dsimp +instances only [id]
      by_cases hv : val16 fm > 2
      · simp only [if_pos hv]; rfl
      · simp only [if_neg hv]
        refine agree_seq (agree_readN 2 bs3) fun nt bs4 _ => ?_
        dsimp +instances only [id]
        refine agree_seq (agree_readN 2 bs4) fun dv bs5 _ => ?_
        dsimp +instances only [id]
        rfl
  cases hq : readHeader bs with
  | error e => rfl
  | ok a =>
    obtain ⟨⟨format, numTracks, tf⟩, bs5⟩ := a
    have := (readHeader_framed bs).rest_le hq
    dsimp only [id]
    rw [run_bind]
    have hl := run_readLoop fuel (bs5.length + 2) fuel (initState numTracks) bs5 (by omega) (by omega) (by omega)
    unfold initState at hl ⊢
    generalize Smf.readLoop _ _ bs5 = lr at hl ⊢
    generalize run listOps (Stream.readLoop fuel fuel _) bs5 = q at hl ⊢
    obtain ⟨r, s'⟩ := q
    cases hl
    exact run_finish format tf lr s'

end Midi.Stream
