import Proofs.Gram
import Proofs.SmfLoop
/-!
# C05 — reading malformed or truncated SMF data fails cleanly and never fabricates

Proved here for every byte string: the reader model terminates without exhausting its fuel (the
model has no panic branch: every outcome is a value or an error class), and every decoded event
consumed input (so the work, and the requested buffer sizes, are bounded by the input).
The truncation clause is `prefix_safe`: for every valid SMF 1.0 syntax tree (the grammar of C02, with
all its encoding choices) and every cut position, the reader returns an error or a value whose tracks
are event-for-event prefixes of the original tracks.
-/
namespace Midi.C05
open Midi Midi.Smf Midi.Gram

/-- for every byte string whatsoever the reader returns a file value or an error class:
    it never runs out of fuel (termination of the Go loops) -/
theorem read_total (bs : Bytes) : (∃ f, readFrom bs = .ok f) ∨ (∃ e, readFrom bs = .error e ∧ e ≠ .fuel) := by
  cases h : readFrom bs with
  | ok f => exact Or.inl ⟨f, rfl⟩
  | error e => exact Or.inr ⟨e, rfl, fun he => readFrom_total bs (he ▸ h)⟩

/-- every decoded event consumed at least one byte: the event loop makes progress on every input -/
theorem event_progress (rr : Nat) (bs : Bytes) (ev : REv) (h : readEvent rr bs = .ok ev) :
    ev.rest.length < bs.length := readEvent_rest_lt rr bs ev h

/-- the chunk loop skips whole chunks only: at least the 8 header bytes are consumed per call -/
theorem chunk_progress (k : Nat) (bs : Bytes) (k' : Nat) (rest : Bytes)
    (h : chunkLoop (bs.length + 1) k bs = .ok (k', rest)) : rest.length + 8 ≤ bs.length := by
  obtain ⟨_, u, rfl, hu, _⟩ := (chunkLoop_spec ..).1 _ _ h
  simp only [List.length_append]
  omega

/-- a length-prefixed read hands out exactly the declared number of bytes and only if they are there:
    the requested buffer is never larger than the remaining input (post-repair `ReadNBytes`) -/
theorem payload_bounded (n : Nat) (bs d rest : Bytes) (h : readN n bs = .ok (d, rest)) :
    d.length = n ∧ n ≤ bs.length := by
  obtain ⟨rfl, rfl⟩ := (readN_ok_iff ..).mp h
  simp

/-- a declared length that exceeds the remaining input is an error, never a zero-padded payload -/
theorem payload_short_is_error (n : Nat) (bs : Bytes) (h : bs.length < n) :
    readN n bs = .error .eof ∨ readN n bs = .error .ueof := by
  rw [readN_eq, if_pos h]
  split <;> simp

/-- For every proper (indeed every) prefix of a valid file the result is either an error or a value with
    the original format, division and number of tracks whose tracks are event-for-event prefixes of the
    original tracks: nothing is invented, reordered or altered by truncation. -/
theorem prefix_safe (g : GFile) (h : g.Valid) (k : Nat) :
    match readFrom ((serialize g).take k) with
    | .ok f => f.format = g.format ∧ f.tf = g.tf ∧ TracksPrefix f.tracks (meaning g).tracks
    | .error _ => True := by
  cases hk : readFrom ((serialize g).take k) with
  | error e => trivial
  | ok f =>
    have := readFrom_mono _ ((serialize g).drop k) f hk
    rw [List.take_append_drop, readFrom_serialize g h] at this
    exact ⟨this.1.symm, this.2.1.symm, this.2.2⟩

/-- a cut inside any single event never decodes to a complete event: the decoder reports `io.EOF`,
    unexpected EOF, or (second data byte missing) an empty message with the input exhausted -/
theorem cut_event_never_fabricates (rr : Nat) (e : GEvent) (hd : e.delta.Valid) (hv : e.ev.Valid)
    (hel : match e.ev with | .chan s _ _ true => rr = s | _ => True) (m : Nat) (hm : m < e.bytes.length) :
    readEvent rr (e.bytes.take m) = .error .eof ∨ readEvent rr (e.bytes.take m) = .error .ueof ∨
    ∃ δ s, readEvent rr (e.bytes.take m) = .ok ⟨δ, [], s, []⟩ :=
  ReadsEv.cut (fun t => readEvent_g rr e t hd hv hel) m hm

/-- `TracksPrefix` is what it says: same number of tracks, each a list prefix -/
theorem tracksPrefix_spec (ts M : List Track) (h : TracksPrefix ts M) :
    ts.length = M.length ∧ ∀ i (h1 : i < ts.length) (h2 : i < M.length), ts[i] <+: M[i] := by
  induction h with
  | nil => exact ⟨rfl, fun i h1 _ => absurd h1 (by simp)⟩
  | cons hab _ ih =>
    refine ⟨by simp [ih.1], ?_⟩
    intro i h1 h2
    cases i with
    | zero => simpa using hab
    | succ j => simpa using ih.2 j (by simpa using h1) (by simpa using h2)

example : readFrom [0x4D, 0x54, 0x68, 0x64, 0, 0, 0, 6, 0, 0, 0, 1, 0, 0x60, 0x4D, 0x54, 0x72, 0x6B, 0, 0, 0, 4, 0, 0x40, 0x40, 0x40]
    = .error .other := by decide +kernel   -- stray data byte: an error, not a panic

end Midi.C05
