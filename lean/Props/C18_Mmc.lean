import MidiModel.Generated.MmcGo
import Props.C18_Code
/-!
# C18, tie to the source: the MMC helpers (`v2/mmc/mmc.go`) as translated are the model's

The builders `Message.SysEx`, `GoTo.SysEx` return the model's bytes. The parsers `(*GoTo).Parse`, `(*Message).Parse`
(receiver value in; receiver value and error flag out) return what the model returns, the flag set where it says `err`, and
fail with a run-time error where it says `panic` (`code_GoTo_Parse_eq`; `code_Message_Parse_eq` for byte strings shorter
than 2^62) — nowhere, by `Sysex.goto_parse_no_panic` and `Sysex.msg_parse_no_panic` (`Proofs/Sysex.lean`).
-/
namespace Midi.C18
open Midi Midi.Go Midi.Sysex

def toGoMsg (m : Message) : mmc.Message := { DeviceID := m.dev, Command := m.cmd, IsResponse := m.resp, Data := m.data }
def toGoGoTo (g : GoTo) : mmc.GoTo :=
  { DeviceID := g.dev, Hour := g.hour, Minute := g.minute, Second := g.second, Frame := g.frame, SubFrame := g.sub }

theorem code_Message_SysEx (m : Message) : mmc.Message.SysEx (toGoMsg m) = Message.build m := by
  unfold mmc.Message.SysEx Message.build toGoMsg
  by_cases h : m.dev = 0 ∨ m.dev > 127 <;> simp [h, Id.run] <;> rfl

theorem code_GoTo_SysEx (g : GoTo) : mmc.GoTo.SysEx (toGoGoTo g) = GoTo.build g := rfl

theorem code_GoTo_Parse_eq (g : GoTo) (bt : Bytes) :
    mmc.GoTo.Parse (toGoGoTo g) bt = (GoTo.parse g bt).toGo toGoGoTo := by
  unfold mmc.GoTo.Parse GoTo.parse
  by_cases hl : bt.length = 13
  case neg =>
    rw [if_pos hl, if_pos (by omega)]
    rfl
  rw [if_neg (by omega), if_neg (not_not_intro hl)]
  have h13 := Nat.le_of_eq hl.symm
  -- every read is below the length test; then both sides are the same tree of tests on `bt[i]!`
  simp only [Go.idx_of_le h13, Sysex.idx_of_le h13, Int.reduceLE, Int.reduceToNat, Nat.reduceLT, ↓Go.ok_bind,
    apply_ite (MRes.toGo toGoGoTo)]
  rfl

theorem code_GoTo_Parse (g : GoTo) (bt : Bytes) :
    mmc.GoTo.Parse (toGoGoTo g) bt =
      (match GoTo.parse g bt with
       | .ok g' => .ok (toGoGoTo g', false)
       | .err g' => .ok (toGoGoTo g', true)
       | .panic => .error "index out of range") := by
  rw [code_GoTo_Parse_eq]
  cases GoTo.parse g bt <;> rfl

theorem code_Message_Parse_eq (g : Message) (bt : Bytes) (hlen : bt.length < 4611686018427387904) :
    mmc.Message.Parse (toGoMsg g) bt = (Message.parse g bt).toGo toGoMsg := by
  unfold Message.parse mmc.Message.Parse
  by_cases h5 : bt.length < 5
  case pos =>
    rw [if_pos h5, if_pos (by omega)]
    rfl
  rw [if_neg h5, if_neg (by omega)]
  have h5 : 5 ≤ bt.length := by omega
  obtain ⟨l1, l2⟩ := len_sub bt (by omega) hlen
  have hl : bt.length - 1 < bt.length := by omega
  simp only [l1, l2, Go.idx_of_le h5, Sysex.idx_of_le h5, Int.reduceLE, Int.reduceToNat, Nat.reduceLT,
    Go.idx_nat hl, Sysex.idx_eq hl, ↓Go.ok_bind, apply_ite (MRes.toGo toGoMsg)]
  norm_cast
  -- the same tree of tests on both sides; only the two slices need the length tests above them: walk down to them
  -- start byte, 0x7F, end byte
  refine ite_congr rfl (fun _ => rfl) fun _ => ?_
  refine ite_congr rfl (fun _ => rfl) fun _ => ?_
  refine ite_congr rfl (fun _ => rfl) fun _ => ?_
  -- `bt[3]`: command (0x06) or not
  refine ite_congr rfl (fun _ => ?_) fun _ => ?_
  · -- `len < 6`, `bt[4] ≥ 0x40`, `len < 8`
    refine ite_congr rfl (fun _ => rfl) fun _ => ?_
    refine ite_congr rfl (fun _ => ?_) fun _ => rfl
    refine ite_congr rfl (fun _ => rfl) fun h8 => ?_
    rw [Go.slice_eq (by decide) (by omega) (by omega), Sysex.slice_eq (by omega) (by omega)]
    rfl
  · -- response (0x07), `len > 5`
    refine ite_congr rfl (fun _ => ?_) fun _ => rfl
    refine ite_congr rfl (fun h6 => ?_) fun _ => rfl
    rw [Go.slice_eq (by decide) (by omega) (by omega), Sysex.slice_eq (by omega) (by omega)]
    rfl

theorem code_Message_Parse (g : Message) (bt : Bytes) (hlen : bt.length < 4611686018427387904) :
    match Message.parse g bt with
    | .ok g' => mmc.Message.Parse (toGoMsg g) bt = .ok (toGoMsg g', false)
    | .err g' => mmc.Message.Parse (toGoMsg g) bt = .ok (toGoMsg g', true)
    | .panic => ∃ e, mmc.Message.Parse (toGoMsg g) bt = .error e := by
  rw [code_Message_Parse_eq g bt hlen]
  cases Message.parse g bt with
  | ok g' => rfl
  | err g' => rfl
  | panic => exact ⟨_, rfl⟩

end Midi.C18
