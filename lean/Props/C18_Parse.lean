import Props.C18_Code
/-!
# C18, tie to the source: `sysex.Parse` as translated from `v2/sysex/sysex.go` is the model's `parse`

`code_Parse_eq`, for every byte string shorter than 2^62 (as every Go slice is): the translated function returns the parsed
value and a nil error where the model says `ok`, the zero value and a non-nil error where it says `err`, and fails with a
run-time error where it says `panic` — nowhere, by `Sysex.parse_no_panic` (`Proofs/Sysex.lean`). The `error` value is
rendered as the flag "non-nil" (DESIGN §4).
-/
namespace Midi.C18
open Midi Midi.Go Midi.Sysex

/-- `code_Checksum` on a Go value written out field by field: `Parse` builds its result as a struct literal, and that is the
    form in which `simp` meets `Checksum` there -/
theorem code_Checksum_mk (m d mo : Nat) (r : Bool) (a0 a1 a2 : Nat) (sd : Bytes) (n0 n1 n2 : Nat) :
    sysex.Manufacturer.Checksum { ManufacturerID := m, DeviceID := d, ModelID := mo, InfoRequest := r,
                                  Address := [a0, a1, a2], SendingData := sd, NumReqBytes := [n0, n1, n2] } =
    .ok (checksum { manu := m, dev := d, model := mo, req := r, a0 := a0, a1 := a1, a2 := a2, data := sd,
                    n0 := n0, n1 := n1, n2 := n2 }) :=
  code_Checksum { manu := m, dev := d, model := mo, req := r, a0 := a0, a1 := a1, a2 := a2, data := sd,
                  n0 := n0, n1 := n1, n2 := n2 }

theorem code_Parse_eq (bt : Bytes) (hlen : bt.length < 4611686018427387904) :
    sysex.Parse bt = (parse bt).toGo := by
  unfold parse sysex.Parse
  by_cases h11 : bt.length < 11
  case pos =>
    rw [if_pos h11, if_pos (by omega)]
    rfl
  rw [if_neg h11, if_neg (by omega)]
  -- 11 ≤ len covers every read of both functions: bt[0..10], bt[len-2], bt[len-1], bt[8:len-2]
  have h11 : 11 ≤ bt.length := by omega
  obtain ⟨l1, l2⟩ := len_sub bt (by omega) hlen
  have hl1 : bt.length - 1 < bt.length := by omega
  have hl2 : bt.length - 2 < bt.length := by omega
  have S : Go.slice bt 8 ((bt.length - 2 : Nat) : Int) = .ok ((bt.take (bt.length - 2)).drop 8) :=
    Go.slice_eq (by decide) (by omega) (by omega)
  -- `PRes.toGo` commutes with `if` (`apply_ite`), so that both sides become trees of the same tests
  simp only [l1, l2, Go.idx_of_le h11, Sysex.idx_of_le h11, Int.reduceLE, Int.reduceToNat, Nat.reduceLT,
    Go.idx_nat hl1, Go.idx_nat hl2, Sysex.idx_eq hl1, Sysex.idx_eq hl2, S,
    Sysex.slice_eq (show 8 ≤ bt.length - 2 by omega) (Nat.sub_le _ _),
    Go.setIdx_eq, List.length_replicate, List.length_set, parseTail, ↓Go.ok_bind, apply_ite PRes.toGo]
  -- the `[3]byte` fields as list literals, then `Checksum`
  simp only [List.replicate_succ, List.replicate_zero, List.set_cons_zero, List.set_cons_succ, code_Checksum_mk,
    ↓Go.ok_bind]
  -- Go switches on the kind byte before the address is read, the model tests it first: by cases on it
  by_cases k17 : bt[4]! = 17
  · simp only [k17, ne_eq, not_true_eq_false, false_and, if_true, if_false, beq_self_eq_true]
    norm_cast
  by_cases k18 : bt[4]! = 18
  · simp only [k18, ne_eq, not_true_eq_false, and_false, if_true, if_false, Nat.reduceEqDiff, Nat.reduceBEq,
      Bool.false_eq_true]
    rfl
  · simp only [k17, k18, ne_eq, not_false_eq_true, and_self, if_true, if_false]
    rfl

theorem code_Parse (bt : Bytes) (hlen : bt.length < 4611686018427387904) :
    match parse bt with
    | .ok m => sysex.Parse bt = .ok (toGo m, false)
    | .err _ => ∃ g, sysex.Parse bt = .ok (g, true)
    | .panic => ∃ e, sysex.Parse bt = .error e := by
  rw [code_Parse_eq bt hlen]
  cases parse bt with
  | ok m => rfl
  | err e => exact ⟨_, rfl⟩
  | panic => exact ⟨_, rfl⟩

end Midi.C18
