import Proofs.SmfRead
/-!
What the reader makes of a well-formed stream, said once for every producer of such streams (the writer of
C01, the grammar of C02): an event is one of three kinds of string `readEvent` decodes; a track body is a chain of
such strings, each read from the running status the one before left; a file is a header, and before each body a
string the chunk loop reads up to the body.
-/
namespace Midi.Smf
open Midi.Vlq

theorem ne_EOT_of_not_isEOTMsg (m : Msg) (h : isEOTMsg m = false) : (m == EOT) = false := by
  cases hb : (m == EOT) with
  | false => rfl
  | true =>
    have : m = EOT := by simpa using hb
    subst this
    cases h

theorem isEOTMsg_cons (a : Nat) (r : Msg) (h : a ≠ 0xFF) : isEOTMsg (a :: r) = false := by
  cases r <;> simp [isEOTMsg, h]

theorem isEOTMsg_meta (t : Nat) (r : Msg) (h : t ≠ 0x2F) : isEOTMsg (0xFF :: t :: r) = false := by
  simp [isEOTMsg, h]

theorem isClosed_snoc (t : Track) (x : Event) : Track.isClosed (t ++ [x]) = (x.msg == EOT) := by
  simp [Track.isClosed]

theorem isClosed_snoc_EOT (t : Track) (δ : Nat) : Track.isClosed (t ++ [⟨δ, EOT⟩]) = true := by
  rw [isClosed_snoc]
  rfl

theorem close_closed (t : Track) (δe δ : Nat) : Track.close (t ++ [⟨δe, EOT⟩]) δ = t ++ [⟨δe, EOT⟩] := by
  simp only [Track.close, isClosed_snoc_EOT, if_true]

theorem add_closed (t : Track) (δe δ : Nat) (msgs : List Msg) : Track.add (t ++ [⟨δe, EOT⟩]) δ msgs = t ++ [⟨δe, EOT⟩] := by
  simp only [Track.add, isClosed_snoc_EOT, if_true]

theorem add_open (t : Track) (δ : Nat) (m : Msg) (h : t.isClosed = false) :
    t.add δ [m] = t ++ [⟨δ, m⟩] := by simp [Track.add, h, addEvents]

theorem close_open (t : Track) (δ : Nat) (h : t.isClosed = false) :
    t.close δ = t ++ [⟨δ, EOT⟩] := by simp [Track.close, h]

/-! ### the three kinds of event on the wire

`u` is any string `readVlq` reads as the delta, `l` any string it reads as the payload length: the shortest form the
writer emits, or a padded one. A channel event may leave out its status byte (`elide`) when the reader's running status
is that byte. -/

theorem readVlq_padded (p n : Nat) (hn : n < 4294967296) : Reads readVlq (List.replicate p 0x80 ++ encode n) n := by
  intro rest
  simp only [readVlq, read_padded p n hn rest]

theorem readVlq_encode (n : Nat) (hn : n < 4294967296) : Reads readVlq (encode n) n :=
  readVlq_padded 0 n hn

theorem readsEv_meta {rr δ : Nat} {u l : Bytes} (t : Nat) (d : Bytes) (hu : Reads readVlq u δ)
    (hl : Reads readVlq l d.length) : ReadsEv rr (u ++ ([0xFF, t] ++ (l ++ d))) δ ([0xFF, t] ++ encode d.length ++ d) 0 := by
  intro rest
  unfold readEvent
  simp [hu _, hl _, readN_reads d rest, readByte, bind, Except.bind, pure, Except.pure]

theorem readsEv_sysex {rr δ lead : Nat} {u l : Bytes} (d : Bytes) (hlead : lead = 0xF0 ∨ lead = 0xF7)
    (hu : Reads readVlq u δ) (hl : Reads readVlq l d.length) : ReadsEv rr (u ++ (lead :: (l ++ d))) δ (lead :: d) 0 := by
  intro rest
  unfold readEvent
  rcases hlead with rfl | rfl <;>
    simp [hu _, hl _, readN_reads d rest, readByte, bind, Except.bind, pure, Except.pure]

theorem readsEv_chan {rr δ s d1 : Nat} {u : Bytes} (d2 : Option Nat) (elide : Bool) (hu : Reads readVlq u δ)
    (h1 : 0x80 ≤ s) (h2 : s ≤ 0xEF) (h3 : d1 < 128)
    -- the last clause of `Ev.Valid` and of `GEv.Valid` as it stands: `oneData s` of either unfolds to this test
    (h4 : match d2 with
      | none => (s / 16 = 0xC || s / 16 = 0xD) = true
      | some d => (s / 16 = 0xC || s / 16 = 0xD) = false ∧ d < 128)
    (hel : elide = true → rr = s) :
    ReadsEv rr (u ++ ((if elide then [] else [s]) ++ d1 :: d2.toList)) δ (s :: d1 :: d2.toList) s := by
  intro rest
  have hfin : finishChan δ s d1 (d2.toList ++ rest) = ⟨δ, s :: d1 :: d2.toList, s, rest⟩ := by
    cases d2 <;> simp_all [finishChan]
  unfold readEvent
  have hdFF : d1 ≠ 0xFF := by omega
  have hdF0 : ¬ (d1 = 0xF0 ∨ d1 = 0xF7) := by omega
  have hdc : isChanStatus d1 = false := by simp [isChanStatus]; omega
  cases elide with
  | true =>
    -- the first byte is data: the reader falls back on its running status, which is `s`
    obtain rfl := hel rfl
    have hs0 : rr ≠ 0 := by omega
    simp [hu _, readByte, bind, Except.bind, pure, Except.pure, hdFF, hdF0, hdc, hs0, hfin]
  | false =>
    have hsFF : s ≠ 0xFF := by omega
    have hsF0 : ¬ (s = 0xF0 ∨ s = 0xF7) := by omega
    have hc : isChanStatus s = true := by simp [isChanStatus]; omega
    simp [hu _, readByte, bind, Except.bind, pure, Except.pure, hsFF, hsF0, hc, hfin]

/-- `u`, read from running status `rr`, is decoded to the events `evs`, the last of which ends the track -/
inductive ReadsBody : Nat → Bytes → Track → Prop
  | eot {rr : Nat} {u : Bytes} {δ : Nat} {m : Msg} :
      ReadsEv rr u δ m 0 → isEOTMsg m = true → ReadsBody rr u [⟨δ, EOT⟩]
  | cons {rr : Nat} {u : Bytes} {δ : Nat} {m : Msg} {rs : Nat} {v : Bytes} {evs : Track} :
      ReadsEv rr u δ m rs → isEOTMsg m = false → ReadsBody rs v evs → ReadsBody rr (u ++ v) (⟨δ, m⟩ :: evs)

theorem ReadsEv.ne_nil {rr : Nat} {u : Bytes} {δ : Nat} {m : Msg} {rs : Nat} (h : ReadsEv rr u δ m rs) : 1 ≤ u.length := by
  have := readEvent_rest_lt _ _ _ (h [])
  rw [List.append_nil] at this
  exact this

theorem ReadsBody.length_le {rr : Nat} {u : Bytes} {evs : Track} (h : ReadsBody rr u evs) : evs.length ≤ u.length := by
  induction h with
  | eot h _ => simpa using h.ne_nil
  | cons h _ _ ih =>
    have := h.ne_nil
    simp only [List.length_cons, List.length_append]
    omega

/-- the reader inside track `A.length + 1` of `n`, running status `rr`: the tracks `A` are complete, `pre` is what has
    been read of the current one, `B` are the tracks to come -/
abbrev inTrack (n rr : Nat) (A : List Track) (pre : Track) (B : List Track) : RState :=
  { numTracks := n, started := A.length + 1, expectChunk := false, rs := rr, done := false, tracks := A ++ pre :: B }

/-- the same when the end of the track has been read: done if it was the last track, else the next chunk is expected -/
abbrev afterTrack (n rr : Nat) (A : List Track) (t : Track) (B : List Track) : RState :=
  { inTrack n rr A t B with expectChunk := !(A.length + 1 == n), done := A.length + 1 == n }

theorem readLoop_event (f n rr : Nat) (A B : List Track) (pre : Track) (bs : Bytes) (ev : REv)
    (hpre : pre.isClosed = false) (hev : readEvent rr bs = .ok ev) (hne : isEOTMsg ev.msg = false) :
    readLoop (f+1) (inTrack n rr A pre B) bs
      = readLoop f (inTrack n ev.rs A (pre ++ [⟨ev.delta, ev.msg⟩]) B) ev.rest := by
  have hlen : ¬ (A.length + (B.length + 1) ≤ A.length) := by omega
  simp [readLoop, hev, hne, setTrack, add_open _ _ _ hpre, hlen]

theorem readLoop_eot (f n rr : Nat) (A B : List Track) (pre : Track) (bs : Bytes) (ev : REv)
    (hpre : pre.isClosed = false) (hev : readEvent rr bs = .ok ev) (he : isEOTMsg ev.msg = true) :
    readLoop (f+1) (inTrack n rr A pre B) bs
      = readLoop f (afterTrack n ev.rs A (pre ++ [⟨ev.delta, EOT⟩]) B) ev.rest := by
  have hlen : ¬ (A.length + (B.length + 1) ≤ A.length) := by omega
  simp [readLoop, hev, he, setTrack, close_open _ _ hpre, hlen]

theorem readLoop_body {rr : Nat} {u : Bytes} {evs : Track} (h : ReadsBody rr u evs) (n : Nat) (A B : List Track)
    (rest : Bytes) : ∀ (pre : Track) (fuel : Nat), pre.isClosed = false →
    readLoop (fuel + evs.length) (inTrack n rr A pre B) (u ++ rest)
      = readLoop fuel (afterTrack n 0 A (pre ++ evs) B) rest := by
  induction h with
  | eot h he =>
    intro pre fuel hpre
    exact readLoop_eot fuel n _ A B pre _ _ hpre (h rest) he
  | cons h hne _ ih =>
    intro pre fuel hpre
    rw [List.length_cons, ← Nat.add_assoc, List.append_assoc, readLoop_event _ n _ A B pre _ _ hpre (h _) hne,
      ih _ _ (by rw [isClosed_snoc]; exact ne_EOT_of_not_isEOTMsg _ hne)]
    simp

theorem readLoop_head {a : Bytes} (h : ReadsHead a) (f : Nat) (s : RState) (bs : Bytes) (hx : s.expectChunk = true)
    (hd : s.done = false) :
    readLoop (f+1) s (a ++ bs) = readLoop (f+1) { s with started := s.started + 1, expectChunk := false } bs := by
  have := h s.started ((a ++ bs).length + 1) bs (by simp only [List.length_append]; omega)
  simp only [readLoop, hx, hd, Bool.false_eq_true, if_false, if_true, this]

theorem readLoop_chunks {ι : Type} (head body : ι → Bytes) (track : ι → Track) (tail : Bytes) :
    ∀ (cs : List ι) (done : List Track) (fuel n : Nat),
    cs ≠ [] → (∀ c ∈ cs, ReadsHead (head c) ∧ ReadsBody 0 (body c) (track c)) → n = done.length + cs.length →
    ((cs.map fun c => head c ++ body c).flatten ++ tail).length < fuel →
    readLoop fuel { numTracks := n, started := done.length, expectChunk := true, rs := 0, done := false,
                    tracks := done ++ List.replicate cs.length [] }
        ((cs.map fun c => head c ++ body c).flatten ++ tail)
      = ({ numTracks := n, started := n, expectChunk := false, rs := 0, done := true, tracks := done ++ cs.map track },
         .finished) := by
  intro cs
  induction cs with
  | nil => intro _ _ _ h; exact absurd rfl h
  | cons c cs ih =>
    intro done fuel n _ hok hn hf
    obtain ⟨ha, hu⟩ := hok _ (List.mem_cons_self ..)
    have hlen := hu.length_le
    simp only [List.map_cons, List.flatten_cons, List.append_assoc, List.length_append, List.length_cons] at hf ⊢
    obtain ⟨g, rfl⟩ : ∃ g, fuel = g + 1 + (track c).length := ⟨fuel - 1 - (track c).length, by omega⟩
    rw [show g + 1 + (track c).length = (g + (track c).length) + 1 by omega, readLoop_head ha _ _ _ rfl rfl,
      show (g + (track c).length) + 1 = (g + 1) + (track c).length by omega, List.replicate_succ,
      readLoop_body hu n done _ _ [] (g + 1) rfl]
    cases cs with
    | nil => simp [readLoop, hn]
    | cons c2 cs2 =>
      have e1 : (done.length + 1 == n) = false := by simp [hn]
      have := ih (done ++ [track c]) (g + 1) n (by simp) (fun x hx => hok x (List.mem_cons_of_mem _ hx))
        (by simp [hn]; omega) (by simp only [List.length_append] at hf ⊢; omega)
      simpa [afterTrack, e1] using this

/-- `cs` lists the chunks of a file in any form; of each, `head` is what stands before the body (alien chunks, the
    track chunk's header), `body` the events, `track` what they are decoded to. -/
theorem readFrom_chunks {ι : Type} (head body : ι → Bytes) (track : ι → Track) (hdr tail : Bytes) (format : Nat)
    (tf : TimeFormat) (cs : List ι) (hh : Reads readHeader hdr (format, cs.length, tf)) (hne : cs ≠ [])
    (hok : ∀ c ∈ cs, ReadsHead (head c) ∧ ReadsBody 0 (body c) (track c)) :
    readFrom (hdr ++ ((cs.map fun c => head c ++ body c).flatten ++ tail)) = .ok ⟨format, tf, cs.map track⟩ := by
  rw [readFrom_header, hh]
  have := readLoop_chunks head body track tail cs [] (((cs.map fun c => head c ++ body c).flatten ++ tail).length + 2)
    cs.length hne hok (by simp) (by omega)
  simp only [List.nil_append, List.length_nil] at this
  dsimp only [initState]
  rw [this]
  simp [finish, RState.missing]

end Midi.Smf
