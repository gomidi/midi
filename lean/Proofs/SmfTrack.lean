import MidiModel.SmfAst
import Proofs.SmfReads
/-! The writer at AST level, one event and a track body, and the reader on what it emits: an event is read back from any
    reader status that agrees with the writer's. No message of the domain is taken for the end-of-track message, so the
    track a body decodes to is open. -/
namespace Midi.Smf
open Midi.Vlq

/-- writer at AST level: body bytes of one event and the new running status -/
def encBody (rsOn : Bool) (rs : Nat) : Ev → Bytes × Nat
  | .chan s d1 d2 =>
    let tail := match d2 with | none => [d1] | some d => [d1, d]
    if rsOn ∧ s = rs then (tail, s) else (s :: tail, if rsOn then s else rs)
  | .metaEv t d => ([0xFF, t] ++ encode d.length ++ d, if rsOn then 0 else rs)
  | .sysex l d => (l :: (encode d.length ++ d), if rsOn then 0 else rs)

theorem encMsg_toBytes (rsOn : Bool) (rs : Nat) (e : Ev) (hv : e.Valid) :
    encMsg rsOn rs e.toBytes = some (encBody rsOn rs e) := by
  cases e with
  | metaEv t d =>
    cases rsOn <;> simp [Ev.toBytes, encMsg, encBody, isChanStatus]
  | sysex l d =>
    obtain ⟨hl, hd⟩ := hv
    have hm : d.length % 4294967296 = d.length := Nat.mod_eq_of_lt hd
    rcases hl with rfl | rfl <;> cases rsOn <;> simp [Ev.toBytes, encMsg, encBody, hm]
  | chan s d1 d2 =>
    obtain ⟨h1, h2, h3, h4⟩ := hv
    have hF0 : ¬ (s = 0xF0 ∨ s = 0xF7) := by omega
    have hc : isChanStatus s = true := by simp [isChanStatus]; omega
    -- the same unfolding in all eight cases: one or two data bytes, running status off, on with `s = rs` or not
    cases d2 <;> cases rsOn <;> by_cases hs : rs = s <;>
      simp [Ev.toBytes, encMsg, encBody, hF0, hc, hs, eq_comm (a := s) (b := rs)]

theorem readEvent_enc (rsOn : Bool) (rs rr δ : Nat) (e : Ev) (rest : Bytes)
    (hv : e.Valid) (hδ : δ < 4294967296) (hrr : rsOn = true → rr = rs) :
    readEvent rr (encode δ ++ (encBody rsOn rs e).1 ++ rest)
      = .ok ⟨δ, e.toBytes, statusOr0 e, rest⟩ := by
  have hu := readVlq_encode δ hδ
  cases e with
  | metaEv t d => exact readsEv_meta t d hu (readVlq_encode d.length hv.2) rest
  | sysex l d => exact readsEv_sysex d hv.1 hu (readVlq_encode d.length hv.2) rest
  | chan s d1 d2 =>
    obtain ⟨h1, h2, h3, h4⟩ := hv
    have hel : decide (rsOn = true ∧ s = rs) = true → rr = s := by
      intro h
      obtain ⟨hon, rfl⟩ := of_decide_eq_true h
      exact hrr hon
    have := readsEv_chan d2 (decide (rsOn = true ∧ s = rs)) hu h1 h2 h3 h4 hel rest
    by_cases hc : rsOn = true ∧ s = rs <;> cases d2 <;> simpa [encBody, hc, Ev.toBytes, statusOr0] using this

theorem encBody_status (rs : Nat) (e : Ev) : (encBody true rs e).2 = statusOr0 e := by
  cases e with
  | chan s d1 d2 => simp only [encBody, statusOr0]; split <;> simp_all
  | metaEv t d => simp [encBody, statusOr0]
  | sysex l d => simp [encBody, statusOr0]

theorem encBody_false_indep (rs rr : Nat) (e : Ev) : (encBody false rs e).1 = (encBody false rr e).1 := by
  cases e <;> simp [encBody]

abbrev ATrack := List (Nat × Ev)

def evOf (x : Nat × Ev) : Event := ⟨x.1, x.2.toBytes⟩

def encBodyL (rsOn : Bool) : Nat → ATrack → Bytes
  | _, [] => []
  | rs, (δ, e) :: r => encode δ ++ (encBody rsOn rs e).1 ++ encBodyL rsOn (encBody rsOn rs e).2 r

theorem encBodyL_length (rsOn : Bool) (body : ATrack) : ∀ rs, body.length ≤ (encBodyL rsOn rs body).length := by
  induction body with
  | nil => intro rs; simp [encBodyL]
  | cons x body ih =>
    intro rs
    obtain ⟨δ, e⟩ := x
    have h1 := ih (encBody rsOn rs e).2
    have h2 := encode_length_pos δ
    simp only [encBodyL, List.length_append, List.length_cons]
    omega

def BodyOK (body : ATrack) : Prop := ∀ x ∈ body, x.2.Valid ∧ x.2.notEOT ∧ x.1 < 4294967296

theorem isEOTMsg_toBytes (e : Ev) (h : e.notEOT) (hv : e.Valid) : isEOTMsg e.toBytes = false := by
  cases e with
  | chan s d1 d2 => cases d2 <;> exact isEOTMsg_cons _ _ (by have := hv.2.1; omega)
  | metaEv t d => exact isEOTMsg_meta t _ h
  | sysex l d => exact isEOTMsg_cons _ _ (by rcases hv.1 with hl | hl <;> omega)

theorem toBytes_ne_EOT (e : Ev) (h : e.notEOT) (hv : e.Valid) : (e.toBytes == EOT) = false :=
  ne_EOT_of_not_isEOTMsg _ (isEOTMsg_toBytes e h hv)

theorem body_open (body : ATrack) (hb : BodyOK body) : Track.isClosed (body.map evOf) = false := by
  unfold Track.isClosed
  rw [List.getLast?_map]
  cases h : body.getLast? with
  | none => rfl
  | some x =>
    have hx := hb x (List.mem_of_getLast? h)
    exact toBytes_ne_EOT x.2 hx.2.1 hx.1

theorem set_mid {α} (A : List α) (x y : α) (B : List α) : (A ++ x :: B).set A.length y = A ++ y :: B := by simp

theorem getD_mid {α} (A : List α) (x d : α) (B : List α) : (A ++ x :: B).getD A.length d = x := by simp

end Midi.Smf
